import Proofs.BuildOps
/-!
# The builder's composite operations as visits

`visit_module` visits (`Visits`) exactly the followed targets of the entry it produces (after the source map), the drains
visit the keys of their table, the initial loads visit the roots and the configured imports; one request is
`check_specifier`, bookkeeping, and then a load (redirect) or such a visit followed by settling the target
(`stepPending_shape`).

While a request is being handled — from taking it off the queue until its target gets its entry, so in the state `st1`
of `stepPending_shape` and during the visit that starts there — the invariants of the loop do not hold as they stand.
Each has a form with one exception, which the steps in between keep and settling the target turns back into the
invariant: `PendInvEx` (the requested specifier: its pending slot has lost its queued request; `check_specifier` drops the
slot if the answer names another specifier), `RedirInvEx` and `StepOkEx` (the redirect `check_specifier` has just
recorded: its target has no entry yet), `EndsX` and `WalkInvX` (the final specifier of the module being visited: a
redirect walk may stop there although it has no entry yet).  The invariants proper are the forms with exception `none`.
-/
namespace DG.Build
open DG Tables

/-- the dependency targets that are followed, read off a recorded dependency -/
def depTargets (o : Opts) (d : BDep) : List Spec :=
  if d.dyn && o.skipDynamicDeps then []
  else (match d.code with | .ok s _ => [s] | _ => []) ++ (match d.type with | .ok s _ => [s] | _ => [])

def modTargets (o : Opts) : BMod → List Spec
  | .js _ deps td _ => deps.flatMap (depTargets o) ++ (match td with | some (.ok s _) => [s] | _ => [])
  | .wasm deps => deps.flatMap (depTargets o)
  | _ => []

/-- not `DG.Prune.slotTargets` (the code targets pruning follows) -/
def slotTargets (o : Opts) : BSlot → List Spec
  | .module m => modTargets o m
  | _ => []

/-- `Res.okSpec?` as a list; the other target lists in terms of it: `depTargets_eq`, `modTargets_js` -/
def resTargets : Res → List Spec
  | .ok s _ => [s]
  | _ => []

def optTargets : Option Res → List Spec
  | some r => resTargets r
  | none => []

/-- both sides of every dependency, whatever the options -/
def mentionedTargets (deps : List BDep) : List Spec := deps.flatMap fun d => resTargets d.code ++ resTargets d.type

def parsedTargets (p : Parsed) : List Spec :=
  mentionedTargets p.deps ++ optTargets p.typesDep ++ optTargets p.sourceMapDep

theorem mem_resTargets {r : Res} {s : Spec} : s ∈ resTargets r ↔ ∃ rng, r = .ok s rng := by
  cases r with
  | ok t rng => exact List.mem_singleton.trans ⟨fun h => ⟨rng, h ▸ rfl⟩, fun ⟨_, h⟩ => (Res.ok.inj h).1.symm⟩
  | _ => exact ⟨nofun, nofun⟩

theorem forall_resTargets {P : Spec → Prop} {r : Res} : (∀ s ∈ resTargets r, P s) ↔ ∀ s rng, r = .ok s rng → P s :=
  forall_congr' fun _ => (imp_congr_left mem_resTargets).trans exists_imp

theorem forall_optTargets {P : Spec → Prop} {r : Option Res} :
    (∀ s ∈ optTargets r, P s) ↔ ∀ s rng, r = some (.ok s rng) → P s := by
  cases r with
  | none => exact ⟨fun _ _ _ e => (nomatch e), fun _ _ h => (nomatch h)⟩
  | some r => exact forall_resTargets.trans ⟨fun h s rng e => h s rng (Option.some.inj e), fun h s rng e => h s rng (e ▸ rfl)⟩

theorem depTargets_eq (o : Opts) (d : BDep) :
    depTargets o d = if d.dyn && o.skipDynamicDeps then [] else resTargets d.code ++ resTargets d.type := rfl

theorem modTargets_js (o : Opts) (mt : MediaType) (deps : List BDep) (td sm : Option Res) :
    modTargets o (.js mt deps td sm) = deps.flatMap (depTargets o) ++ optTargets td := by
  rcases td with _ | (_ | _ | _) <;> rfl

/-- `Visits w o xs st st'`: `st'` arises from `st` by visiting the specifiers `xs` one after the other.  A visit is a load
or, outside a dynamic branch, a registration in the dynamic-branch table (its keys become the old ones and the
registered one). -/
inductive Visits (w : World) (o : Opts) : List Spec → St → St → Prop
  | refl (st : St) : Visits w o [] st st
  | load {xs : List Spec} {st st' : St} (count : Nat) (lo : LoadOpts) :
      Visits w o xs (load w o count lo st) st' → Visits w o (lo.spec :: xs) st st'
  | register {xs : List Spec} {st st' : St} (s : Spec) (dyn' : List (Spec × DynBranch)) : st.inDyn = false →
      (∀ x, x ∈ dyn'.map (·.1) ↔ x ∈ st.dyn.map (·.1) ∨ x = s) →
      Visits w o xs { st with dyn := dyn' } st' → Visits w o (s :: xs) st st'

namespace Visits
variable {w : World} {o : Opts} {xs ys : List Spec}

theorem trans {a b c : St} (h1 : Visits w o xs a b) (h2 : Visits w o ys b c) : Visits w o (xs ++ ys) a c := by
  induction h1 with
  | refl => exact h2
  | load count lo _ ih => exact .load count lo (ih h2)
  | register s dyn' hi hk _ ih => exact .register s dyn' hi hk (ih h2)

/-- `s` stands for `lo.spec` so that `lo` can be left to unification with the state afterwards: with `[lo.spec]` in the
statement Lean would have to solve `?lo.spec = s` first -/
theorem one (count : Nat) (lo : LoadOpts) (st : St) {s : Spec} (hs : lo.spec = s) :
    Visits w o [s] st (Build.load w o count lo st) :=
  hs ▸ .load count lo (.refl _)

theorem frame {st st' : St} (hv : Visits w o xs st st') :
    st' = { st with slots := st'.slots, pending := st'.pending, deferred := st'.deferred, dyn := st'.dyn } := by
  induction hv with
  | refl => rfl
  | load count lo _ ih => rw [ih, load_frame]
  | register _ _ _ _ _ ih => exact ih

theorem dyn {st st' : St} (hv : Visits w o xs st st') :
    st'.inDyn = st.inDyn ∧ (st.inDyn = true → st'.dyn = st.dyn) := by
  induction hv with
  | refl => exact ⟨rfl, fun _ => rfl⟩
  | load count lo _ ih => rw [load_frame] at ih; exact ih
  | register _ _ hi _ _ ih => exact ⟨ih.1, fun h => by rw [hi] at h; cases h⟩

theorem foldl {α} (f : St → α → St) (g : α → List Spec) (hf : ∀ st a, Visits w o (g a) st (f st a)) (items : List α)
    (st : St) : Visits w o (items.flatMap g) st (items.foldl f st) := by
  induction items generalizing st with
  | nil => exact .refl _
  | cons a rest ih => exact (hf st a).trans (ih _)

end Visits

/-- the hypothesis is the form in which `fun_cases` says that a `match` on a resolution fell through -/
theorem resTargets_of_not_ok {r : Res} (h : ∀ s rng, r = .ok s rng → False) : resTargets r = [] := by
  cases r with
  | ok s rng => exact (h s rng rfl).elim
  | _ => rfl

theorem visitDepCode_fst (w : World) (o : Opts) (d : BDep) (st : St) :
    (visitDepCode w o d st).1 =
      { d with code := if o.kind.includeCode || d.type == .none then d.code else .none } := by
  by_cases hk : (o.kind.includeCode || d.type == .none) = true
  · rw [if_pos hk]
    fun_cases visitDepCode w o d st
    · rfl
    · rfl
    · rfl
    · contradiction
  · rw [if_neg hk, visitDepCode, if_neg hk]

theorem visitDepType_fst (w : World) (o : Opts) (d : BDep) (st : St) :
    (visitDepType w o d st).1 = { d with type := if o.kind.includeTypes then d.type else .none } := by
  by_cases hk : o.kind.includeTypes = true
  · rw [if_pos hk]
    fun_cases visitDepType w o d st
    · rfl
    · rfl
    · rfl
    · contradiction
  · rw [if_neg hk, visitDepType, if_neg hk]

theorem visitDepCode_visit (w : World) (o : Opts) (d : BDep) (st : St) :
    Visits w o (resTargets (visitDepCode w o d st).1.code) st (visitDepCode w o d st).2 := by
  fun_cases visitDepCode w o d st
  next s rng hc _ hb st' =>
    -- a dynamic import outside a dynamic branch is registered: under an old key or a new one
    simp only [Bool.and_eq_true, Bool.not_eq_true'] at hb
    by_cases hany : st.dyn.any (·.1 == s) = true
    · rw [hc, show st' = _ from if_pos hany]
      refine .register s _ hb.2 (fun x => ?_) (.refl _)
      have hf : ∀ p : Spec × DynBranch,
          (if (p.1 == s && !d.isAsset) = true then (p.1, { p.2 with isAsset := false }) else p).1 = p.1 :=
        fun p => by split <;> rfl
      simp only [List.map_map, Function.comp_def, hf]
      obtain ⟨p, hp, e⟩ := List.any_eq_true.mp hany
      exact ⟨Or.inl, fun h => h.elim id (· ▸ List.mem_map.mpr ⟨p, hp, beq_iff_eq.mp e⟩)⟩
    · rw [hc, show st' = _ from if_neg hany]
      refine .register s _ hb.2 (fun x => ?_) (.refl _)
      rw [List.map_append]
      exact List.mem_append.trans (or_congr Iff.rfl List.mem_singleton)
  next s rng hc _ _ => exact hc ▸ .one 0 _ st rfl
  next hc => exact resTargets_of_not_ok hc ▸ .refl st
  next => exact .refl st

theorem visitDepType_visit (w : World) (o : Opts) (d : BDep) (st : St) :
    Visits w o (resTargets (visitDepType w o d st).1.type) st (visitDepType w o d st).2 := by
  fun_cases visitDepType w o d st
  next s rng hc _ hb _ =>
    simp only [Bool.and_eq_true, Bool.not_eq_true'] at hb
    exact hc ▸ .register s _ hb.2 (fun x => mem_keys_upsert st.dyn s x _) (.refl _)
  next s rng hc _ _ => exact hc ▸ .one 0 _ st rfl
  next hc => exact resTargets_of_not_ok hc ▸ .refl st
  next => exact .refl st

theorem resTargets_cleared {c : Prop} [Decidable c] {r : Res} {x : Spec} (h : x ∈ resTargets (if c then r else .none)) :
    x ∈ resTargets r := by
  split at h
  · exact h
  · cases h

theorem visits_visitDeps (w : World) (o : Opts) (deps : List BDep) (st : St) :
    Visits w o ((visitDeps w o deps st).1.flatMap (depTargets o)) st (visitDeps w o deps st).2 ∧
    ∀ x ∈ (visitDeps w o deps st).1.flatMap (depTargets o), x ∈ mentionedTargets deps := by
  fun_induction visitDeps w o deps st
  next => exact ⟨.refl _, nofun⟩
  next d rest st hskip r ih =>
    have hd : depTargets o d = [] := if_pos hskip
    refine ⟨?_, fun x hx => List.mem_append_right _ (ih.2 x ?_)⟩
    · show Visits w o (depTargets o d ++ _) st _
      rw [hd]; exact ih.1
    · exact (List.mem_append.mp hx).resolve_left (hd ▸ List.not_mem_nil)
  next d rest st hskip c t r ih =>
    have hc1 : c.1 = _ := visitDepCode_fst w o d st
    have ht1 : t.1 = _ := visitDepType_fst w o c.1 c.2
    have hd : depTargets o t.1 = resTargets c.1.code ++ resTargets t.1.type := by
      rw [depTargets_eq, ht1, hc1, if_neg hskip]
    refine ⟨?_, fun x hx => ?_⟩
    · show Visits w o (depTargets o t.1 ++ _) st _
      rw [hd]; exact ((visitDepCode_visit w o d st).trans (visitDepType_visit w o c.1 c.2)).trans ih.1
    · refine (List.mem_append.mp hx).elim (fun hx => List.mem_append_left _ ?_) fun hx => List.mem_append_right _ (ih.2 x hx)
      rw [hd, ht1, hc1] at hx
      exact List.mem_append.mpr ((List.mem_append.mp hx).imp resTargets_cleared resTargets_cleared)

theorem visits_loadSourceMap (w : World) (o : Opts) (p : Parsed) (st : St) :
    Visits w o (optTargets p.sourceMapDep) st (loadSourceMap w o p st) := by
  unfold loadSourceMap
  rcases p.sourceMapDep with _ | (_ | ⟨s, rng⟩ | _)
  · exact .refl st
  · exact .refl st
  · exact .one 0 _ st rfl
  · exact .refl st

theorem visits_loadTypesDep (w : World) (o : Opts) (p : Parsed) (st : St) :
    Visits w o (optTargets p.typesDep) st (loadTypesDep w o p st) := by
  unfold loadTypesDep
  rcases p.typesDep with _ | (_ | ⟨s, rng⟩ | _)
  · exact .refl st
  · exact .refl st
  · exact .one 0 _ st rfl
  · exact .refl st

theorem visits_visitJsDeps (w : World) (o : Opts) (p : Parsed) (st : St) :
    ∃ pre, Visits w o (pre ++ (visitJsDeps w o p st).1.flatMap (depTargets o)) st (visitJsDeps w o p st).2 ∧
      ∀ x ∈ pre ++ (visitJsDeps w o p st).1.flatMap (depTargets o), x ∈ parsedTargets p := by
  fun_cases visitJsDeps w o p st
  · have h := visits_visitDeps w o p.deps (loadSourceMap w o p st)
    exact ⟨_, (visits_loadSourceMap w o p st).trans h.1, fun x hx => (List.mem_append.mp hx).elim
      (List.mem_append_right _) fun hx => List.mem_append_left _ (List.mem_append_left _ (h.2 x hx))⟩
  · exact ⟨[], .refl st, nofun⟩

/-- `pre`: the source map, loaded first if the dependencies are visited at all -/
theorem visits_visitModule (w : World) (o : Opts) (cls : Class) (c : Content) (st : St) :
    ∃ pre, Visits w o (pre ++ slotTargets o (visitModule w o cls c st).1) st (visitModule w o cls c st).2 ∧
      ∀ x ∈ pre ++ slotTargets o (visitModule w o cls c st).1, x ∈ parsedTargets c.parsed := by
  fun_cases visitModule w o cls c st
  next => exact ⟨[], .refl st, nofun⟩
  next => exact ⟨[], .refl st, nofun⟩
  next =>
    have h := visits_visitDeps w o c.parsed.deps st
    exact ⟨[], h.1, fun x hx => List.mem_append_left _ (List.mem_append_left _ (h.2 x hx))⟩
  next mt r _ =>
    obtain ⟨pre, hv, hsub⟩ := visits_visitJsDeps w o c.parsed st
    simp only [slotTargets, modTargets_js, ← List.append_assoc]
    exact ⟨pre, hv.trans (visits_loadTypesDep w o c.parsed r.2), fun x hx =>
      (List.mem_append.mp hx).elim (hsub x) fun h => List.mem_append_left _ (List.mem_append_right _ h)⟩
  next =>
    simp only [slotTargets, modTargets_js, optTargets, List.append_nil]
    exact visits_visitJsDeps w o c.parsed st

/-- the three things a drain can do (the last argument is the state afterwards) -/
inductive Drained (w : World) (o : Opts) (st : St) : St → Prop
  | idle : st.pending ≠ [] ∨ st.deferred = [] ∧ st.inDyn = true → Drained w o st st
  | deferred {st' : St} : Visits w o (st.deferred.map (·.1)) { st with deferred := [] } st' →
      st.pending = [] → st.deferred ≠ [] → Drained w o st st'
  | dyn {st' : St} : Visits w o (st.dyn.map (·.1)) { st with inDyn := true, dyn := [] } st' →
      st.pending = [] → st.deferred = [] → st.inDyn = false → Drained w o st st'

theorem drain_cases (w : World) (o : Opts) (st : St) : Drained w o st (drain w o st) := by
  unfold drain
  simp only
  -- `rw [if_pos _]` rewrites the one `if` at hand; `split` would simplify all three, bodies included
  by_cases hp : st.pending = []
  · rw [if_neg (by simp [hp])]
    by_cases hd : st.deferred = []
    · rw [if_neg (by simp [hd])]
      by_cases hi : st.inDyn = false
      · rw [if_pos (by simp [hi])]
        refine .dyn ?_ hp hd hi
        rw [List.map_eq_flatMap]
        refine Visits.foldl _ _ (fun st p => ?_) _ _
        exact .one 0 _ st rfl
      · rw [if_neg (by simpa using hi)]
        exact .idle (.inr ⟨hd, by simpa using hi⟩)
    · rw [if_pos (by simpa using hd)]
      refine .deferred ?_ hp hd
      rw [List.map_eq_flatMap]
      refine Visits.foldl _ _ (fun st p => ?_) _ _
      exact .one 0 _ st rfl
  · rw [if_pos (by simpa using hp)]
    exact .idle (.inl hp)

/-- where a redirect leads, else where the entry goes -/
def Outcome.target : Outcome → Spec
  | .external spec _ => spec
  | .module f _ => f
  | .redirect to => to
  | .err e => e.spec

/-- the entry an outcome other than a redirect produces for its target, and the state after the visit that produces
it.  `c` is the content analysed: `applyOutcome` takes that of the *requested* specifier (`w.contentOf r.spec`), not of
the final one.  For a redirect the value is junk (a pending slot, which `Outcome.Enters.finished` excludes). -/
def Outcome.entry (w : World) (o : Opts) (c : Content) : Outcome → St → BSlot × St
  | .err e, st => (.err e, st)
  | .external _ a, st => (.module (.external a), st)
  | .module _ cls, st => visitModule w o cls c st
  | .redirect _, st => (.pending false, st)

def Req.follow (r : Req) (to : Spec) : LoadOpts :=
  { spec := to, range := r.range, spRef := r.spRef, isAsset := r.isAsset, inDyn := r.inDyn, isRoot := r.isRoot, attr := r.attr }

/-- `t` gets the entry `sl`, unless it has a finished entry already -/
inductive Settled (t : Spec) (sl : BSlot) (st : St) : St → Prop
  | set : Settled t sl st (st.setSlot t sl)
  | keep (sl' : BSlot) : st.slot t = some sl' → (∀ a, sl' ≠ .pending a) → Settled t sl st st

theorem Settled.frame {t : Spec} {sl : BSlot} {st st' : St} (h : Settled t sl st st') :
    st' = { st with slots := st'.slots } := by
  cases h <;> rfl

/-- how an outcome other than a redirect takes `st1` to `st'`: a visit of `xs` produces its entry, which is then
settled at the target -/
structure Outcome.Enters (w : World) (o : Opts) (c : Content) (out : Outcome) (st1 : St) (xs : List Spec) (st' : St) :
    Prop where
  finished : ∀ a, (out.entry w o c st1).1 ≠ .pending a
  visits : Visits w o xs st1 (out.entry w o c st1).2
  covers : slotTargets o (out.entry w o c st1).1 ⊆ xs
  within : xs ⊆ parsedTargets c.parsed
  settled : Settled out.target (out.entry w o c st1).1 (out.entry w o c st1).2 st'

theorem visitModule_slot_not_pending (w : World) (o : Opts) (cls : Class) (c : Content) (st : St)
    (hcls : ∀ k r, cls ≠ .err k r) : ∀ a, (visitModule w o cls c st).1 ≠ .pending a := by
  fun_cases visitModule w o cls c st
  · exact absurd rfl (hcls _ _)
  · nofun
  · nofun
  · nofun
  · nofun

theorem stepPending_shape (w : World) (o : Opts) (r : Req) (st : St) :
    ∃ st1, Same (checkSpecifier st r.spec (tryLoad w o r).target) st1 ∧ st1.log = (logRequest w o r st).log ∧
      ((∃ to, tryLoad w o r = .redirect to ∧ stepPending w o r st = load w o (r.count + 1) (r.follow to) st1) ∨
       ∃ xs, (tryLoad w o r).Enters w o (w.contentOf r.spec) st1 xs (stepPending w o r st)) := by
  unfold stepPending
  have hf := tryLoad_from w o r
  have hcs : ∀ t, Same (checkSpecifier st r.spec t) (checkSpecifier (logRequest w o r st) r.spec t) ∧
      (checkSpecifier (logRequest w o r st) r.spec t).log = (logRequest w o r st).log := fun t =>
    ⟨(same_logRequest w o r st).checkSpecifier r.spec t, by rw [checkSpecifier_frame]⟩
  generalize logRequest w o r st = s0 at hcs ⊢
  generalize tryLoad w o r = out at hf ⊢
  cases out with
  | redirect to => exact ⟨_, (hcs to).1, (hcs to).2, .inl ⟨to, rfl, rfl⟩⟩
  | err e =>
    exact ⟨_, (hcs e.spec).1, (hcs e.spec).2,
      .inr ⟨[], nofun, .refl _, List.Subset.refl [], List.nil_subset _, .set⟩⟩
  | module f cls =>
    exact ⟨_, (hcs f).1.trans ((same_markRoot ..).trans (same_recordChecksum ..)),
      ((log_recordChecksum ..).trans (log_markRoot ..)).trans (hcs f).2, .inr <|
      have ⟨_, hv, hsub⟩ := visits_visitModule w o cls (w.contentOf r.spec) _
      ⟨_, visitModule_slot_not_pending w o cls _ _ hf.1, hv, List.subset_append_right .., hsub, .set⟩⟩
  | external spec a =>
    refine ⟨_, (hcs spec).1.trans (same_markRoot _ r.isRoot spec), (log_markRoot ..).trans (hcs spec).2,
      .inr ⟨[], nofun, .refl _, List.Subset.refl [], List.nil_subset _, ?_⟩⟩
    simp only [applyOutcome]
    split
    · exact .set
    · rename_i sl hp h; exact .keep sl h hp
    · exact .set

theorem stepPending_frame (w : World) (o : Opts) (r : Req) (st : St) :
    ∃ st1 st2 xs, Same (checkSpecifier st r.spec (tryLoad w o r).target) st1 ∧ st1.log = (logRequest w o r st).log ∧
      Visits w o xs st1 st2 ∧ stepPending w o r st = { st2 with slots := (stepPending w o r st).slots } := by
  obtain ⟨st1, hs, hl, ⟨to, -, e⟩ | ⟨xs, he⟩⟩ := stepPending_shape w o r st
  · exact ⟨st1, _, _, hs, hl, .one _ (r.follow to) st1 rfl, by rw [e]⟩
  · exact ⟨st1, _, xs, hs, hl, he.visits, he.settled.frame⟩

theorem quiescent_iff {st : St} : quiescent st = true ↔ st.pending = [] ∧ st.dyn = [] ∧ st.deferred = [] := by
  simp only [quiescent, Bool.and_eq_true, List.isEmpty_iff, and_assoc]

theorem runLoop_induction {P : St → Prop} (w : World) (o : Opts) (hiter : ∀ st, P st → P (iter w o st)) :
    ∀ (fuel : Nat) (st out : St), P st → runLoop w o fuel st = some out → P out ∧ quiescent out = true := by
  intro fuel st out hst hrun
  fun_induction runLoop w o fuel st
  next => cases hrun
  next fuel st hq => cases hrun; exact ⟨hst, hq⟩
  next fuel st hq ih => exact ih (hiter st hst) hrun

/-- the loads `build` starts with, from any state: `Reload.buildMore` starts with them from the persisted state -/
def initLoads (w : World) (o : Opts) (roots : List Spec) (deps : List Dep) (st : St) : St :=
  deps.foldl (fun st (d : Dep) =>
    match d.type with
    | .ok s rng =>
      load w o 0 { spec := s, range := some rng, spRef := none, isAsset := false, inDyn := st.inDyn,
                   isRoot := st.isResolvedRoot s, attr := none } st
    | _ => st)
    (roots.foldl (fun st r =>
      load w o 0 { spec := r, range := none, spRef := none, isAsset := false, inDyn := st.inDyn,
                   isRoot := true, attr := none } st) st)

theorem build_eq (w : World) (o : Opts) (roots : List Spec) (imports : List (Spec × List Dep)) (fuel : Nat) :
    build w o roots imports fuel =
      runLoop w o fuel (initLoads w o roots (imports.flatMap (·.2)) { inDyn := o.isDynamic }) := rfl

def initTargets (roots : List Spec) (deps : List Dep) : List Spec :=
  roots ++ deps.flatMap fun d => resTargets d.type

theorem visits_initLoads (w : World) (o : Opts) (roots : List Spec) (deps : List Dep) (st : St) :
    Visits w o (initTargets roots deps) st (initLoads w o roots deps st) := by
  have hr := Visits.foldl (w := w) (o := o) (fun st r => load w o 0
      { spec := r, range := none, spRef := none, isAsset := false, inDyn := st.inDyn, isRoot := true, attr := none } st)
    (fun r => [r]) (fun st _ => .one 0 _ st rfl) roots st
  rw [List.flatMap_singleton'] at hr
  refine hr.trans (Visits.foldl _ (fun d : Dep => resTargets d.type) (fun st d => ?_) deps _)
  cases d.type with
  | ok s rng => exact .one 0 _ st rfl
  | _ => exact .refl st

end DG.Build
