import DG.Segment
import Proofs.OrdSet
/-! `segment`: the tables of the new graph are what `entrySlot` and `entryRedirect` keep of the walk's
entries, under the same keys. -/
namespace DG

theorem nodup_dedup (l : List Spec) : (dedup l).Nodup := nodup_foldl_insEnd List.nodup_nil

theorem entrySlot_key {p : Spec × Entry} {q : Spec × Slot} (h : entrySlot p = some q) : q.1 = p.1 := by
  obtain ⟨k, e⟩ := p
  cases e <;> cases h <;> rfl

theorem entrySlot_inj {p p' : Spec × Entry} {q : Spec × Slot} (h : entrySlot p = some q)
    (h' : entrySlot p' = some q) : p = p' := by
  obtain ⟨k, e⟩ := p
  obtain ⟨k', e'⟩ := p'
  cases e <;> cases h <;> cases e' <;> cases h' <;> rfl

theorem entryRedirect_eq_some {p : Spec × Entry} {k to : Spec} :
    entryRedirect p = some (k, to) ↔ p = (k, .redirect to) := by
  obtain ⟨k', e⟩ := p
  cases e <;> simp [entryRedirect]

theorem entryRedirect_key {p : Spec × Entry} {q : Spec × Spec} (h : entryRedirect p = some q) : q.1 = p.1 := by
  rw [entryRedirect_eq_some.mp h]

theorem segment_of_new {g : Graph} {roots : List Spec}
    (hnew : (dedup roots).all (fun r => g.roots.contains r) = false) :
    g.segment roots =
      { kind := g.kind, roots := dedup roots,
        slots := (g.walk (segmentOpts g) (dedup roots)).filterMap entrySlot,
        redirects := (g.walk (segmentOpts g) (dedup roots)).filterMap entryRedirect,
        imports := g.imports, schemes := g.schemes } := by
  simp only [Graph.segment, hnew, Bool.false_eq_true, if_false]

end DG
