import Proofs.BuildVisits
/-!
# Closure of a finished build ("nothing reachable is absent")

`Acc st x`: the specifier `x` is accounted for in the graph — it has an entry (of any kind) or it is a redirect source.
Every step of the builder keeps what is accounted for accounted for, every `load` accounts for the requested specifier,
every recorded redirect has an accounted target, and every followed dependency target of every module entry is
accounted for or waits in the dynamic-branch table.  At the end of the build that table is empty.

`Acc` and `Grew` (entries are only added, redirects untouched: what loads, visits and settling do) are also what the
redirect walk (`Proofs/BuildWalk.lean`) and the measure (`Proofs/BuildTerm.lean`) rest on.
-/
namespace DG.Build
open DG Tables

def Acc (st : St) (x : Spec) : Prop :=
  (st.slot x).isSome = true ∨ (st.redirects.lookup x).isSome = true

/-- `x` is registered in the dynamic-branch table (not the flag `St.inDyn`, "inside a dynamic branch") -/
def InDyn (st : St) (x : Spec) : Prop := ∃ b, (x, b) ∈ st.dyn

/-- accounted for, or going to be when the dynamic branches are entered -/
def Cover (st : St) (x : Spec) : Prop := Acc st x ∨ InDyn st x

theorem inDyn_iff {st : St} {x : Spec} : InDyn st x ↔ x ∈ st.dyn.map (·.1) := by
  simp [InDyn]

theorem acc_of_cover {st : St} {x : Spec} (h : Cover st x) (hd : st.dyn = []) : Acc st x :=
  h.resolve_right fun ⟨_, hb⟩ => by rw [hd] at hb; cases hb

/-- a state transformer that never forgets a specifier -/
structure Mono (f : St → St) : Prop where
  acc : ∀ st x, Acc st x → Acc (f st) x
  dyn : ∀ st x, InDyn st x → Cover (f st) x

theorem mono_of_same (f : St → St) (h : ∀ st, Same st (f st)) : Mono f := by
  refine ⟨fun st x hx => ?_, fun st x hx => Or.inr ?_⟩
  · rw [Acc, St.slot, (h st).slots, (h st).redirects]; exact hx
  · rw [InDyn, (h st).dyn]; exact hx

theorem mono_recordChecksum (w : World) (cls : Class) (f : Spec) (hash : Option Nat) :
    Mono (recordChecksum w cls f hash) :=
  mono_of_same _ (same_recordChecksum w cls f hash)

theorem mono_logRequest (w : World) (o : Opts) (r : Req) : Mono (logRequest w o r) :=
  mono_of_same _ (same_logRequest w o r)

structure Grew (st st' : St) : Prop where
  slots : ∀ x, (st.slot x).isSome = true → (st'.slot x).isSome = true
  redirects : st'.redirects = st.redirects

theorem Grew.refl (st : St) : Grew st st := ⟨fun _ h => h, rfl⟩

theorem Grew.trans {a b c : St} (h1 : Grew a b) (h2 : Grew b c) : Grew a c :=
  ⟨fun x h => h2.slots x (h1.slots x h), by rw [h2.redirects, h1.redirects]⟩

theorem Grew.acc {st st' : St} (hg : Grew st st') {x : Spec} (h : Acc st x) : Acc st' x :=
  h.imp (hg.slots x) fun h => by rw [hg.redirects]; exact h

theorem grew_setSlot (st : St) (k : Spec) (sl : BSlot) : Grew st (st.setSlot k sl) := by
  refine ⟨fun x h => ?_, rfl⟩
  rw [slot_setSlot]
  split
  · rfl
  · exact h

theorem grew_of_eq {st st' : St} (hs : st'.slots = st.slots) (hr : st'.redirects = st.redirects) : Grew st st' :=
  ⟨fun x h => by rwa [St.slot, hs], hr⟩

theorem Same.grew {st st' : St} (h : Same st st') : Grew st st' := grew_of_eq h.slots h.redirects

theorem grew_load (w : World) (o : Opts) (count : Nat) (lo : LoadOpts) (st : St) : Grew st (load w o count lo st) := by
  have hl := load_cases w o count lo st
  generalize load w o count lo st = st' at hl ⊢
  cases hl with
  | reject e => exact grew_setSlot _ _ _
  | skip => exact .refl _
  | defer => rw [addDeferred_frame]; exact grew_of_eq rfl rfl
  | node => exact grew_setSlot _ _ _
  | queue => exact ⟨(grew_setSlot st _ (.pending lo.isAsset)).slots, rfl⟩

theorem Visits.grew {w : World} {o : Opts} {xs : List Spec} {st st' : St} (hv : Visits w o xs st st') : Grew st st' := by
  induction hv with
  | refl => exact .refl _
  | load count lo _ ih => exact (grew_load w o count lo _).trans ih
  | register _ _ _ _ _ ih => exact ⟨ih.slots, ih.redirects⟩

theorem Acc.setSlot {st : St} {x : Spec} (h : Acc st x) (k : Spec) (sl : BSlot) : Acc (st.setSlot k sl) x :=
  (grew_setSlot st k sl).acc h

theorem acc_setSlot_self (st : St) (k : Spec) (sl : BSlot) : Acc (st.setSlot k sl) k := by
  left
  rw [slot_setSlot]
  simp

theorem Cover.setSlot {st : St} {x : Spec} (h : Cover st x) (k : Spec) (sl : BSlot) : Cover (st.setSlot k sl) x :=
  h.imp_left (·.setSlot k sl)

theorem redirects_setSlot (st : St) (k : Spec) (sl : BSlot) : (st.setSlot k sl).redirects = st.redirects := rfl

theorem load_endpoint_slot (w : World) (o : Opts) (count : Nat) (lo : LoadOpts) (st : St) :
    ((load w o count lo st).slot (st.resolveForLoad lo.spec)).isSome = true := by
  have hl := load_cases w o count lo st
  generalize load w o count lo st = st' at hl ⊢
  cases hl with
  | reject e => rw [slot_setSlot]; simp
  | skip hs => exact hs
  | defer hs => rw [addDeferred_frame]; exact Option.isSome_iff_exists.mpr ⟨_, hs⟩
  | node => rw [slot_setSlot]; simp
  | queue => rw [slot_loadPendingModule]; simp

theorem acc_load (w : World) (o : Opts) (count : Nat) (lo : LoadOpts) (st : St) :
    Acc (load w o count lo st) lo.spec := by
  rcases resolveForLoad_cases st lo.spec with he | ⟨hr, -⟩
  · exact Or.inl (he ▸ load_endpoint_slot w o count lo st)
  · exact (grew_load w o count lo st).acc (Or.inr hr)

namespace Visits
variable {w : World} {o : Opts} {xs : List Spec} {st st' : St}

theorem cover (hv : Visits w o xs st st') {x : Spec} (h : Cover st x) : Cover st' x := by
  induction hv with
  | refl => exact h
  | load count lo _ ih => exact ih (h.imp (grew_load w o count lo _).acc fun hd => by rw [load_frame]; exact hd)
  | register s dyn' _ hk _ ih =>
    exact ih (h.imp id fun hd => inDyn_iff.mpr ((hk x).mpr (Or.inl (inDyn_iff.mp hd))))

theorem cover_of_mem (hv : Visits w o xs st st') : ∀ x ∈ xs, Cover st' x := by
  induction hv with
  | refl => nofun
  | @load _ s _ count lo hv' ih =>
    exact List.forall_mem_cons.mpr ⟨hv'.cover (Or.inl (acc_load w o count lo s)), ih⟩
  | register s dyn' _ hk hv' ih =>
    exact List.forall_mem_cons.mpr ⟨hv'.cover (Or.inr (inDyn_iff.mpr ((hk s).mpr (Or.inr rfl)))), ih⟩

theorem slots (hv : Visits w o xs st st') {k : Spec} {sl : BSlot} (h : st'.slot k = some sl) :
    st.slot k = some sl ∨ slotTargets o sl = [] := by
  induction hv with
  | refl => exact Or.inl h
  | @load _ s _ count lo _ ih =>
    refine (ih h).elim (fun h' => ?_) Or.inr
    have hset : ∀ (s : St) (k' : Spec) (sl' : BSlot), slotTargets o sl' = [] → (s.setSlot k' sl').slot k = some sl →
        s.slot k = some sl ∨ slotTargets o sl = [] := by
      intro s k' sl' hsl' h'
      rw [slot_setSlot] at h'
      split at h'
      · cases h'; exact Or.inr hsl'
      · exact Or.inl h'
    have hl := load_cases w o count lo s
    generalize Build.load w o count lo s = s' at hl h'
    cases hl with
    | reject e => exact hset _ _ _ rfl h'
    | skip => exact Or.inl h'
    | defer => rw [addDeferred_frame] at h'; exact Or.inl h'
    | node => exact hset _ _ _ rfl h'
    | queue => exact hset _ _ (.pending lo.isAsset) rfl h'
  | register _ _ _ _ _ ih => exact ih h

end Visits

theorem Acc.checkSpecifier {st : St} {x : Spec} (h : Acc st x) (req tgt : Spec) :
    Acc (checkSpecifier st req tgt) x := by
  rw [Acc, slot_checkSpecifier, lookup_redirects_checkSpecifier]
  by_cases hx : x = req ∧ req ≠ tgt
  · -- the requested specifier is now a redirect source
    rw [if_pos hx, if_pos hx]
    exact Or.inr (by cases st.redirects.lookup x <;> rfl)
  · rw [if_neg hx, if_neg hx, Option.or_none]
    exact h

theorem Cover.checkSpecifier {st : St} {x : Spec} (h : Cover st x) (req tgt : Spec) :
    Cover (checkSpecifier st req tgt) x :=
  h.imp (·.checkSpecifier req tgt) fun hd => by rw [checkSpecifier_frame]; exact hd

/-- every followed target of every module entry is accounted for or registered as a dynamic branch -/
def DepInv (o : Opts) (st : St) : Prop :=
  ∀ f sl, st.slot f = some sl → ∀ x ∈ slotTargets o sl, Cover st x

/-- `ex`: the redirect that has just been recorded and whose target is being settled -/
def RedirInvEx (ex : Option (Spec × Spec)) (st : St) : Prop :=
  ∀ p ∈ st.redirects, Acc st p.2 ∨ ex = some p

abbrev RedirInv (st : St) : Prop := RedirInvEx none st

theorem RedirInvEx.settle {st : St} {a b : Spec} (h : RedirInvEx (some (a, b)) st) (hb : Acc st b) : RedirInv st := by
  intro p hp
  rcases h p hp with h | h
  · exact Or.inl h
  · cases h; exact Or.inl hb

/-- a transformer that adds only entries without followed targets -/
structure Leafy (o : Opts) (f : St → St) : Prop where
  mono : Mono f
  slots : ∀ st k sl, (f st).slot k = some sl → st.slot k = some sl ∨ slotTargets o sl = []
  redirects : ∀ st, (f st).redirects = st.redirects

theorem leafy_of_visits {w : World} {o : Opts} {xs : St → List Spec} (f : St → St)
    (hf : ∀ st, Visits w o (xs st) st (f st)) : Leafy o f :=
  ⟨⟨fun st _ => (hf st).grew.acc, fun st _ hd => (hf st).cover (Or.inr hd)⟩,
   fun st _ _ => (hf st).slots, fun st => (hf st).grew.redirects⟩

theorem DepInv.setSlot {o : Opts} {st : St} (h : DepInv o st) (k : Spec) (sl : BSlot)
    (hsl : ∀ x ∈ slotTargets o sl, Cover st x) : DepInv o (st.setSlot k sl) := by
  intro f sl' hf x hx
  refine Cover.setSlot ?_ k sl
  rw [slot_setSlot] at hf
  split at hf
  · cases hf; exact hsl x hx
  · exact h f sl' hf x hx

theorem RedirInvEx.setSlot {ex : Option (Spec × Spec)} {st : St} (h : RedirInvEx ex st) (k : Spec) (sl : BSlot) :
    RedirInvEx ex (st.setSlot k sl) :=
  fun p hp => (h p hp).imp_left (·.setSlot k sl)

theorem DepInv.checkSpecifier {o : Opts} {st : St} (h : DepInv o st) (req tgt : Spec) :
    DepInv o (checkSpecifier st req tgt) := by
  intro k sl hk x hx
  rw [slot_checkSpecifier] at hk
  have : st.slot k = some sl := by
    split at hk
    · rename_i hc; rw [hc.1]; exact (unpend_eq_some.mp hk).1
    · exact hk
  exact (h k sl this x hx).checkSpecifier req tgt

theorem RedirInv.checkSpecifier {st : St} (h : RedirInv st) (req tgt : Spec) :
    RedirInvEx (some (req, tgt)) (checkSpecifier st req tgt) :=
  forall_redirects_checkSpecifier st req tgt (fun p hp => (h p hp).imp (·.checkSpecifier req tgt) nofun)
    fun _ => Or.inr rfl

structure Closed (o : Opts) (st : St) : Prop where
  dep : DepInv o st
  redir : RedirInv st

/-- a step that re-establishes the closure invariants and loses nothing accounted for or covered -/
structure StepOk (o : Opts) (st st' : St) : Prop where
  closed : Closed o st'
  acc : ∀ x, Acc st x → Acc st' x
  cover : ∀ x, Cover st x → Cover st' x

theorem StepOk.trans {o : Opts} {a b c : St} (h1 : StepOk o a b) (h2 : StepOk o b c) : StepOk o a c :=
  ⟨h2.closed, fun x h => h2.acc x (h1.acc x h), fun x h => h2.cover x (h1.cover x h)⟩

theorem StepOk.refl {o : Opts} {st : St} (h : Closed o st) : StepOk o st st := ⟨h, fun _ => id, fun _ => id⟩

/-- `StepOk` as it holds between `check_specifier` and the moment the target of the request gets its entry: the target of
the redirect `req → tgt` just recorded is not accounted for yet -/
structure StepOkEx (o : Opts) (st : St) (req tgt : Spec) (st2 : St) : Prop where
  dep : DepInv o st2
  redir : RedirInvEx (some (req, tgt)) st2
  acc : ∀ x, Acc st x → Acc st2 x
  cover : ∀ x, Cover st x → Cover st2 x

theorem Closed.checkSpecifier {o : Opts} {st : St} (h : Closed o st) (req tgt : Spec) :
    StepOkEx o st req tgt (checkSpecifier st req tgt) :=
  ⟨h.dep.checkSpecifier req tgt, h.redir.checkSpecifier req tgt, fun _ hx => hx.checkSpecifier req tgt,
   fun _ hx => hx.checkSpecifier req tgt⟩

namespace Visits
variable {w : World} {o : Opts} {xs : List Spec} {st st' : St}

theorem depInv (hv : Visits w o xs st st') (h : DepInv o st) : DepInv o st' := by
  intro k sl hk x hx
  rcases hv.slots hk with h1 | h1
  · exact hv.cover (h k sl h1 x hx)
  · rw [h1] at hx; cases hx

theorem redirInvEx (hv : Visits w o xs st st') {ex : Option (Spec × Spec)} (h : RedirInvEx ex st) :
    RedirInvEx ex st' := by
  intro p hp
  rw [hv.grew.redirects] at hp
  exact (h p hp).imp_left hv.grew.acc

theorem stepOk (hv : Visits w o xs st st') (h : Closed o st) : StepOk o st st' :=
  ⟨⟨hv.depInv h.dep, hv.redirInvEx h.redir⟩, fun _ => hv.grew.acc, fun _ => hv.cover⟩

theorem stepOkEx {st0 : St} {req tgt : Spec} (hv : Visits w o xs st st') (h : StepOkEx o st0 req tgt st) :
    StepOkEx o st0 req tgt st' :=
  ⟨hv.depInv h.dep, hv.redirInvEx h.redir, fun x hx => hv.grew.acc (h.acc x hx), fun x hx => hv.cover (h.cover x hx)⟩

end Visits

namespace StepOkEx
variable {o : Opts} {st st2 st3 : St} {req tgt : Spec}

theorem same (h : StepOkEx o st req tgt st2) (hs : Same st2 st3) : StepOkEx o st req tgt st3 := by
  rw [hs.frame]
  exact ⟨h.dep, h.redir, h.acc, h.cover⟩

theorem setSlot (h : StepOkEx o st req tgt st2) (sl : BSlot) (hsl : ∀ x ∈ slotTargets o sl, Cover st2 x) :
    StepOk o st (st2.setSlot tgt sl) :=
  ⟨⟨h.dep.setSlot tgt sl hsl, (h.redir.setSlot tgt sl).settle (acc_setSlot_self ..)⟩,
   fun x hx => (h.acc x hx).setSlot tgt sl, fun x hx => (h.cover x hx).setSlot tgt sl⟩

theorem done (h : StepOkEx o st req tgt st2) (ht : Acc st2 tgt) : StepOk o st st2 :=
  ⟨⟨h.dep, h.redir.settle ht⟩, h.acc, h.cover⟩

end StepOkEx

theorem Closed.stepPending {o : Opts} {st : St} (h : Closed o st) (w : World) (r : Req) :
    StepOk o st (Build.stepPending w o r st) := by
  obtain ⟨st1, hs, -, hcase⟩ := stepPending_shape w o r st
  have h1 := (h.checkSpecifier r.spec (tryLoad w o r).target).same hs
  rcases hcase with ⟨to, hto, e⟩ | ⟨xs, he⟩
  · rw [hto] at h1
    rw [e]
    exact ((Visits.one _ _ _ rfl).stepOkEx h1).done (acc_load w o _ _ _)
  · have hset := he.settled
    generalize Build.stepPending w o r st = st' at hset ⊢
    cases hset with
    | set => exact (he.visits.stepOkEx h1).setSlot _ fun x hx => he.visits.cover_of_mem x (he.covers hx)
    | keep sl' hsl => exact (he.visits.stepOkEx h1).done (Or.inl (by rw [hsl]; rfl))

theorem Closed.drain {o : Opts} {st : St} (h : Closed o st) (w : World) : StepOk o st (Build.drain w o st) := by
  have hd := drain_cases w o st
  generalize Build.drain w o st = st' at hd ⊢
  cases hd with
  | idle => exact .refl h
  | deferred hv =>
    -- the visit starts from the state with the deferred table emptied, which the invariants do not read
    have h1 := hv.stepOk ⟨h.dep, h.redir⟩
    exact ⟨h1.closed, h1.acc, h1.cover⟩
  | dyn hv =>
    -- entering the dynamic branches: the table is emptied, but every registered specifier is visited
    have hcov : ∀ x, Cover st x → Cover st' x := fun x hx =>
      hx.elim (fun hx => Or.inl (hv.grew.acc hx)) fun hx => hv.cover_of_mem x (inDyn_iff.mp hx)
    refine ⟨⟨fun k sl hk x hx => ?_, hv.redirInvEx h.redir⟩, fun x hx => hv.grew.acc hx, hcov⟩
    rcases hv.slots hk with h1 | h1
    · exact hcov x (h.dep k sl h1 x hx)
    · rw [h1] at hx; cases hx

theorem Closed.iter {o : Opts} {st : St} (h : Closed o st) (w : World) : StepOk o st (Build.iter w o st) := by
  unfold Build.iter
  rcases st.pending with _ | ⟨r, rest⟩
  · exact h.drain w
  · -- taking the request off the queue changes nothing the invariants read
    have h1 := Closed.stepPending (st := { st with pending := rest }) ⟨h.dep, h.redir⟩ w r
    exact .trans ⟨h1.closed, h1.acc, h1.cover⟩ (h1.closed.drain w)

theorem closed_init (o : Opts) (b : Bool) : Closed o ({ inDyn := b } : St) :=
  ⟨fun k sl hk => by simp [St.slot, List.lookup] at hk, nofun⟩

end DG.Build
