import DG.Subset
/-! Merging requests never loses one.  `extend` / `add` return the merged request and the difference,
the only part that is traced.  Per merge one pair of Boolean equations (`extend_spec`, `Imp.add_spec`)
and, read off it: `keeps` (the merged request covers both operands), `diff` (what the new request
covers was covered before or is in the difference), `sound` (the merged request claims nothing
beyond what was covered before and the difference, so no later request is answered "already handled"
for something that was not traced). -/
namespace DG.Subset

@[simp] theorem Sub.covers_nilPath (s : Sub) : s.covers [] = false := by
  cases s <;> rfl

theorem Sub.get_covers {s : Sub} {k : String} {e : Ex} {xs : List String} :
    s.get? k = some e → e.covers xs = true → s.covers (k :: xs) = true := by
  fun_induction Sub.get? s k with
  | case1 => exact fun h => nomatch h
  | case2 => intro hg he; cases hg; simp only [Sub.covers, he, BEq.rfl, Bool.and_self, Bool.true_or]
  | case3 _ _ _ _ _ ih => intro hg he; rw [Sub.covers, ih hg he, Bool.or_true]

theorem Sub.covers_contains {s : Sub} {x : String} {xs : List String} :
    s.covers (x :: xs) = true → s.contains x = true := by
  unfold Sub.contains
  fun_induction Sub.get? s x with
  | case1 => exact fun h => nomatch h
  | case2 => exact fun _ => rfl
  | case3 _ _ _ _ hx ih => rw [Sub.covers, beq_false_of_ne hx]; exact ih

theorem Sub.covers_set (s : Sub) (k : String) (e v : Ex) (x : String) (xs : List String) :
    e.covers xs = ((s.get? k).any (·.covers xs) || v.covers xs) →
    (s.set k e).covers (x :: xs) = (s.covers (x :: xs) || (x == k && v.covers xs)) := by
  fun_induction Sub.set s k e <;> simp only [Sub.covers, Sub.get?] <;> intro he
  · rw [he, Option.any_none, Bool.false_or, Bool.false_or, Bool.or_false]
  · rw [he, if_pos trivial, Option.any_some, Bool.and_or_distrib_left, Bool.or_right_comm]
  · next h ih => rw [ih (by rwa [if_neg h] at he), Bool.or_assoc]

theorem Sub.covers_or_congr {s : Sub} {k : String} {e : Ex} (hg : s.get? k = some e) (x : String)
    {xs : List String} {d v : Bool} (h : (e.covers xs || d) = (e.covers xs || v)) :
    (s.covers (x :: xs) || (x == k && d)) = (s.covers (x :: xs) || (x == k && v)) := by
  by_cases hx : x = k
  · cases he : e.covers xs
    · rw [he, Bool.false_or, Bool.false_or] at h; rw [h]
    · rw [hx, Sub.get_covers hg he]; rfl
  · rw [beq_false_of_ne hx]; rfl

theorem Ex.covers_ofDiff (s : Sub) (p : List String) :
    (if s.isEmpty then none else some (Ex.sub s)).any (·.covers p) = s.covers p := by
  cases s <;> rfl

mutual
theorem Ex.extend_spec : ∀ (a b : Ex) (p : List String),
    (Ex.extend a b).1.covers p = (a.covers p || b.covers p) ∧
    (a.covers p || (Ex.extend a b).2.any (·.covers p)) = (a.covers p || b.covers p)
  | .all, _, p => by simp only [Ex.extend, Ex.covers, Bool.true_or, and_self]
  | .sub _, .all, p => by simp only [Ex.extend, Ex.covers, Option.any_some, Bool.or_true, and_self]
  | .sub cur, .sub new, p => by
    simp only [Ex.extend, Ex.covers, Ex.covers_ofDiff]
    exact Sub.extend_spec cur new p
theorem Sub.extend_spec : ∀ (a b : Sub) (p : List String),
    (Sub.extend a b).1.covers p = (a.covers p || b.covers p) ∧
    (a.covers p || (Sub.extend a b).2.covers p) = (a.covers p || b.covers p)
  | a, .nil, p => by simp [Sub.extend, Sub.covers]
  | a, .cons k v rest, [] => by simp
  | a, .cons k v rest, x :: xs => by
    rw [Sub.extend, Sub.covers]
    cases hg : a.get? k with
    | some entry =>
      have ⟨e1, e2⟩ := Ex.extend_spec entry v xs
      have ⟨r1, r2⟩ := Sub.extend_spec (a.set k (Ex.extend entry v).1) rest (x :: xs)
      -- setting the merged entry adds `k ↦ v` to what `a` covers; beside `a`, what is new under `k`
      -- counts as much as `v`; the rest is associativity
      rw [Sub.covers_set a k (Ex.extend entry v).1 v x xs (by rw [hg]; exact e1)] at r1 r2
      have hc := Sub.covers_or_congr hg x e2
      dsimp only
      refine ⟨by rw [r1, Bool.or_assoc], ?_⟩
      cases hd : (Ex.extend entry v).2 <;> dsimp only
      · rw [hd, Option.any_none, Bool.and_false, Bool.or_false] at hc
        rw [← Bool.or_assoc, ← r2, ← hc]
      · rw [hd, Option.any_some] at hc
        rw [Sub.covers, ← Bool.or_assoc, hc, r2, Bool.or_assoc]
    | none =>
      have ⟨r1, r2⟩ := Sub.extend_spec (a.set k v) rest (x :: xs)
      rw [Sub.covers_set a k v v x xs (by rw [hg]; rfl)] at r1 r2
      dsimp only
      exact ⟨by rw [r1, Bool.or_assoc], by rw [Sub.covers, ← Bool.or_assoc, r2, Bool.or_assoc]⟩
end

theorem Ex.extend_keeps : ∀ (a b : Ex) (p : List String),
    (a.covers p = true ∨ b.covers p = true) → (Ex.extend a b).1.covers p = true := fun a b p h => by
  rw [(Ex.extend_spec a b p).1, Bool.or_eq_true]; exact h

theorem Sub.extend_keeps : ∀ (a b : Sub) (p : List String),
    (a.covers p = true ∨ b.covers p = true) → (Sub.extend a b).1.covers p = true := fun a b p h => by
  rw [(Sub.extend_spec a b p).1, Bool.or_eq_true]; exact h

theorem Ex.extend_sound : ∀ (a b : Ex) (p : List String), (Ex.extend a b).1.covers p = true →
    a.covers p = true ∨ ∃ d, (Ex.extend a b).2 = some d ∧ d.covers p = true := fun a b p h => by
  have ⟨h1, h2⟩ := Ex.extend_spec a b p
  rwa [h1, ← h2, Bool.or_eq_true, Option.any_eq_true] at h

theorem Sub.extend_sound : ∀ (a b : Sub) (p : List String), (Sub.extend a b).1.covers p = true →
    a.covers p = true ∨ (Sub.extend a b).2.covers p = true := fun a b p h => by
  have ⟨h1, h2⟩ := Sub.extend_spec a b p
  rwa [h1, ← h2, Bool.or_eq_true] at h

theorem Sub.extend_diff (a b : Sub) (p : List String) (h : b.covers p = true) :
    a.covers p = true ∨ (Sub.extend a b).2.covers p = true :=
  Sub.extend_sound a b p (Sub.extend_keeps a b p (Or.inr h))

theorem Ex.extend_diff (a b : Ex) (p : List String) (h : b.covers p = true) :
    a.covers p = true ∨ ∃ d, (Ex.extend a b).2 = some d ∧ d.covers p = true :=
  Ex.extend_sound a b p (Ex.extend_keeps a b p (Or.inr h))

@[simp] theorem onlyDefault_covers (x : String) (xs : List String) :
    onlyDefault.covers (x :: xs) = (x == "default") := by
  simp [onlyDefault, Sub.add, Sub.set, Sub.covers, Ex.covers]

theorem Sub.covers_default_get (s : Sub) (xs : List String) (h : s.covers ("default" :: xs) = true) :
    ∃ e, s.get? "default" = some e :=
  Option.isSome_iff_exists.mp (Sub.covers_contains h)

theorem Sub.bne_of_covers {s : Sub} {k x : String} {xs : List String} (hk : s.contains k = false)
    (h : s.covers (x :: xs) = true) : (x != k) = true :=
  bne_iff_ne.mpr fun e => Bool.false_ne_true (hk.symm.trans (e ▸ Sub.covers_contains h))

theorem Sub.covers_or_bne_of_all {s : Sub} {k : String} (hg : s.get? k = some .all) (x : String) (xs : List String) :
    (s.covers (x :: xs) || x != k) = true := by
  by_cases hx : x = k
  · rw [hx, Sub.get_covers hg rfl, Bool.true_or]
  · rw [bne_iff_ne.mpr hx, Bool.or_true]

@[simp] theorem Imp.covers_nilPath (i : Imp) : i.covers [] = false := by
  cases i <;> simp [Imp.covers]

/-- `HandledExports`: the requests seen so far and the differences handed on for tracing -/
def handledRun : Option Imp → List Imp → Option Imp × List Imp
  | h, [] => (h, [])
  | h, t :: ts =>
    let r := handledAdd h t
    let rest := handledRun r.1 ts
    (rest.1, (match r.2 with | some d => [d] | none => []) ++ rest.2)

/-- `none`: no record yet, or no difference handed on -/
def optCovers : Option Imp → List String → Bool
  | none, _ => false
  | some i, p => i.covers p

theorem optCovers_eq_true {o : Option Imp} {p : List String} :
    optCovers o p = true ↔ ∃ d, o = some d ∧ d.covers p = true := by
  cases o <;> simp [optCovers]

/-- old record and difference, not old record and new request: the difference may be more than the
request (`star` onto some members of `default` hands on all of `default`) -/
theorem Imp.add_spec (a b : Imp) (p : List String) :
    (Imp.add a b).1.covers p = (a.covers p || optCovers (Imp.add a b).2 p) ∧
    (b.covers p = true → (Imp.add a b).1.covers p = true) := by
  cases p with
  | nil => cases (Imp.add a b).2 <;> simp [optCovers]
  | cons x xs =>
    have hd : true = (x != "default" || onlyDefault.covers (x :: xs)) := by
      rw [onlyDefault_covers]; exact (Bool.not_or_self _).symm
    -- the leaves: the record `a`, then the request `b`
    fun_cases Imp.add a b with
    | case1 => exact ⟨(Bool.or_false _).symm, id⟩ -- `star`, then `star`
    | case2 => exact ⟨hd, id⟩ -- `star`, then `starDefault`
    | case3 => exact ⟨hd, fun _ => rfl⟩ -- `star`, then a tree with `default`
    | case4 _ hn => -- `star`, then a tree without `default`
      exact ⟨(Bool.or_false _).symm, Sub.bne_of_covers (Bool.eq_false_iff.mpr hn)⟩
    | case5 => exact ⟨rfl, fun _ => rfl⟩ -- `starDefault`, then anything
    | case6 _ hg => -- a tree with all of `default`, then `star`
      exact ⟨(Sub.covers_or_bne_of_all hg x xs).symm, fun _ => rfl⟩
    | case7 => -- a tree with part of `default`, then `star`
      exact ⟨(Bool.or_true _).symm, fun _ => rfl⟩
    | case8 _ hg => -- a tree without `default`, then `star`
      exact ⟨(Bool.or_eq_right_iff_imp.mpr (Sub.bne_of_covers (congrArg Option.isSome hg))).symm, id⟩
    | case9 => exact ⟨(Bool.or_true _).symm, fun _ => rfl⟩ -- a tree, then `starDefault`
    | case10 cur n => -- a tree, then a tree
      have ⟨h1, h2⟩ := Sub.extend_spec cur n (x :: xs)
      exact ⟨h1.trans h2.symm, fun h => h1.trans (Bool.or_eq_true_iff.mpr (.inr h))⟩

theorem Imp.add_keeps (a b : Imp) (p : List String)
    (h : a.covers p = true ∨ b.covers p = true) : (Imp.add a b).1.covers p = true :=
  h.elim (fun ha => by rw [(Imp.add_spec a b p).1, ha, Bool.true_or]) (Imp.add_spec a b p).2

theorem Imp.add_sound (a b : Imp) (p : List String) (h : (Imp.add a b).1.covers p = true) :
    a.covers p = true ∨ ∃ d, (Imp.add a b).2 = some d ∧ d.covers p = true := by
  rwa [(Imp.add_spec a b p).1, Bool.or_eq_true, optCovers_eq_true] at h

theorem Imp.add_diff (a b : Imp) (p : List String) (h : b.covers p = true) :
    a.covers p = true ∨ ∃ d, (Imp.add a b).2 = some d ∧ d.covers p = true :=
  Imp.add_sound a b p (Imp.add_keeps a b p (Or.inr h))

theorem handledRun_fst (ts : List Imp) (h : Option Imp) : (handledRun h ts).1 = ts.foldl pendingAdd h := by
  fun_induction handledRun h ts
  · rfl
  · next h _ _ _ _ ih => exact ih.trans (by cases h <;> rfl)

theorem handledAdd_spec (h : Option Imp) (t : Imp) (p : List String) :
    optCovers (handledAdd h t).1 p = (optCovers h p || optCovers (handledAdd h t).2 p) ∧
    (t.covers p = true → optCovers (handledAdd h t).1 p = true) := by
  cases h with
  | none => exact ⟨rfl, id⟩
  | some cur => exact Imp.add_spec cur t p

theorem handledRun_spec (ts : List Imp) (h : Option Imp) (p : List String) :
    optCovers (handledRun h ts).1 p = (optCovers h p || (handledRun h ts).2.any (·.covers p)) := by
  fun_induction handledRun h ts
  · exact (Bool.or_false _).symm
  · next h t _ _ rest ih =>
    rw [ih, (handledAdd_spec h t p).1, List.any_append, Bool.or_assoc]
    cases (handledAdd h t).2 <;> simp [rest, optCovers]

theorem handledRun_keeps (ts : List Imp) (h : Option Imp) (p : List String) :
    (optCovers h p = true ∨ ∃ t ∈ ts, t.covers p = true) → optCovers (handledRun h ts).1 p = true := by
  fun_induction handledRun h ts
  · exact fun hc => hc.elim id fun ⟨_, ht, _⟩ => nomatch ht
  · next h t0 _ _ _ ih =>
    have ⟨e, keeps⟩ := handledAdd_spec h t0 p
    rintro (hc | ⟨t, ht, htc⟩)
    · exact ih (.inl (by rw [e, hc, Bool.true_or]))
    · rcases List.mem_cons.mp ht with rfl | ht
      · exact ih (.inl (keeps htc))
      · exact ih (.inr ⟨t, ht, htc⟩)

theorem handledRun_complete (ts : List Imp) (h : Option Imp) (t : Imp) (p : List String)
    (hm : t ∈ ts) (hc : t.covers p = true) :
    optCovers h p = true ∨ ∃ d ∈ (handledRun h ts).2, d.covers p = true := by
  have := handledRun_keeps ts h p (Or.inr ⟨t, hm, hc⟩)
  rwa [handledRun_spec, Bool.or_eq_true, List.any_eq_true] at this

end DG.Subset
