import DG.JsrSpec
import Proofs.OrdSet
/-! The string functions of the `jsr:` model are characterised by equations between strings (`s = p ++ r` for
`stripPrefix?`, a cut at the first slash for `splitSlash`), so that the URL theorems of C07 are list algebra; the
package table and the probe memo are read through one equation for a lookup after `setKey`. -/
namespace DG.Jsr

theorem stripPrefix?_eq_some {p s r : Str} : stripPrefix? p s = some r ↔ s = p ++ r := by
  fun_induction stripPrefix? p s <;> simp_all [eq_comm]

theorem stripPrefix?_append (p s : Str) : stripPrefix? p (p ++ s) = some s :=
  stripPrefix?_eq_some.mpr rfl

theorem packageUrl_append (reg name ver q : Str) :
    packageUrl reg name ver ++ q = (reg ++ name ++ '/' :: ver) ++ '/' :: q := by
  simp [packageUrl]

theorem dropTrailingSlash_packageUrl (reg name ver : Str) :
    dropTrailingSlash (packageUrl reg name ver) = reg ++ name ++ '/' :: ver := by
  simp [dropTrailingSlash, packageUrl]

theorem dropLeadingSlash_cases (s : Str) : s = dropLeadingSlash s ∨ s = '/' :: dropLeadingSlash s := by
  fun_cases dropLeadingSlash s
  · exact .inr rfl
  · exact .inl rfl

theorem dropLeadingSlash_of_ne {c : Char} (cs : Str) (h : c ≠ '/') : dropLeadingSlash (c :: cs) = c :: cs :=
  (dropLeadingSlash_cases (c :: cs)).elim Eq.symm fun e => absurd (List.cons.inj e).1 h

/-- the `[]` branch of the inner match of `splitSlash` is never taken -/
theorem splitSlash_ne_nil (s : Str) : splitSlash s ≠ [] := by
  fun_cases splitSlash s <;> simp

theorem splitSlash_noslash (a : Str) (h : '/' ∉ a) : splitSlash a = [a] := by
  induction a with
  | nil => rfl
  | cons c cs ih =>
    rw [List.mem_cons, not_or] at h
    simp [splitSlash, Ne.symm h.1, ih h.2]

theorem splitSlash_append (a b : Str) (h : '/' ∉ a) :
    splitSlash (a ++ '/' :: b) = a :: splitSlash b := by
  induction a with
  | nil => simp [splitSlash]
  | cons c cs ih =>
    rw [List.mem_cons, not_or] at h
    simp [splitSlash, Ne.symm h.1, ih h.2]

theorem splitSlash_eq_cons {s a : Str} {l : List Str} (h : splitSlash s = a :: l) :
    '/' ∉ a ∧ ∃ rest, s = a ++ rest ∧ (rest = [] ∧ l = [] ∨ ∃ t, rest = '/' :: t ∧ splitSlash t = l) := by
  by_cases hs : '/' ∈ s
  · obtain ⟨x, t, rfl, hx⟩ := List.eq_append_cons_of_mem hs
    rw [splitSlash_append x t hx] at h
    cases h
    exact ⟨hx, _, rfl, .inr ⟨t, rfl, rfl⟩⟩
  · rw [splitSlash_noslash s hs] at h
    cases h
    exact ⟨hs, [], (List.append_nil s).symm, .inl ⟨rfl, rfl⟩⟩

theorem splitSlash_eq_cons_cons {s a b : Str} {l : List Str} (h : splitSlash s = a :: b :: l) :
    '/' ∉ a ∧ ∃ t, s = a ++ '/' :: t ∧ splitSlash t = b :: l := by
  obtain ⟨ha, _, rfl, ⟨-, h0⟩ | ⟨t, rfl, ht⟩⟩ := splitSlash_eq_cons h
  · cases h0
  · exact ⟨ha, t, rfl, ht⟩

theorem lookup_setKey {α β} [BEq α] [LawfulBEq α] [DecidableEq α] (k k2 : α) (v : β) (l : List (α × β)) :
    (setKey k v l).lookup k2 = if k2 = k then some v else l.lookup k2 := by
  by_cases hk : k2 = k
  · rw [if_pos hk, hk]
    fun_induction setKey k v l with
    | case1 => exact List.lookup_cons_self  -- appended at the end
    | case2 => exact List.lookup_cons_self  -- replaced here
    | case3 k' v' r h ih => rw [List.lookup_cons, beq_false_of_ne fun e => h (beq_iff_eq.mpr e.symm), ih]  -- further on
  · rw [if_neg hk]
    fun_induction setKey k v l with
    | case1 => rw [List.lookup_cons, beq_false_of_ne hk]
    | case2 k' v' r h => rw [List.lookup_cons, List.lookup_cons, beq_iff_eq.mp h, beq_false_of_ne hk]
    | case3 k' v' r h ih => rw [List.lookup_cons, List.lookup_cons, ih]

theorem lookup_setKey_self {α β} [BEq α] [LawfulBEq α] [DecidableEq α] {k : α} {v : β} {l : List (α × β)} :
    (setKey k v l).lookup k = some v :=
  (lookup_setKey k k v l).trans (if_pos rfl)

theorem mem_insertNew {α : Type} [BEq α] [LawfulBEq α] {x y : α} {l : List α} :
    y ∈ insertNew x l ↔ y = x ∨ y ∈ l :=
  mem_insEnd.trans or_comm

theorem versionsByName_addNv (t : Table) (r : Req) (nv : Nv) (name : Nat) :
    (t.addNv r nv).versionsByName name =
      if name = r.name then insertNew nv.version (t.versionsByName r.name) else t.versionsByName name :=
  (congrArg (Option.getD · []) (lookup_setKey ..)).trans (apply_ite (Option.getD · []) ..)

theorem info_ensurePackage (t : Table) (nv : Nv) : ∃ i, (t.ensurePackage nv).info nv = some i := by
  fun_cases Table.ensurePackage t nv
  · next i h => exact ⟨i, h⟩
  · next h => exact ⟨{}, by simp [Table.info, List.lookup_append, show t.packages.lookup nv = none from h]⟩

theorem info_addExport {t : Table} {nv : Nv} {i : PkgInfo} (h : t.info nv = some i) (name path : Str) :
    (t.addExport nv name path).info nv = some { i with exports := setKey name path i.exports } := by
  unfold Table.addExport
  rw [h]
  exact lookup_setKey_self

theorem memo_get_setKey (m : Memo) (name n2 : Nat) (x : List Nat × List Nat) :
    Memo.get (setKey name x m) n2 = if n2 = name then x else Memo.get m n2 := by
  simp only [Memo.get, lookup_setKey]
  split <;> rfl

/-- one equation for both branches of `probe`: without candidates the lists appended are empty -/
theorem probe_memo (reg : Registry) (m : Memo) (name req : Nat) (infos : List (Nat × VInfo)) :
    (probe reg m name req infos).1 =
      setKey name ((m.get name).1 ++ probeCandidates (reg.sat req) infos (m.get name).1,
        (m.get name).2 ++ (probeCandidates (reg.sat req) infos (m.get name).1).filter
          fun v => (reg.cachedManifests name).contains v) m := by
  unfold probe
  simp only
  split
  · rename_i he
    rw [List.isEmpty_iff.1 he, List.filter_nil, List.append_nil, List.append_nil]
  · rfl

end DG.Jsr
