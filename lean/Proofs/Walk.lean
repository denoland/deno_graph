import DG.Walk
import Proofs.OrdSet
/-! A push puts the same list in front of `seen` and of `visiting`: the new specifiers, last first (`pushAll_eq`);
the lemmas on `pushAll` are read off that. -/
namespace DG

theorem mem_foldl_setInsert {l acc : List Spec} {x : Spec} : x ∈ l.foldl setInsert acc ↔ x ∈ acc ∨ x ∈ l := by
  induction l generalizing acc with
  | nil => simp
  | cons a l ih =>
    rw [List.foldl_cons, ih, setInsert, List.mem_cons]
    by_cases h : a ∈ acc
    · rw [if_pos h, or_left_comm, or_iff_right_of_imp fun e => Or.inl (e ▸ h)]
    · rw [if_neg h, List.mem_cons, or_comm (a := x = a), or_assoc]

theorem pushAll_nil (st : WalkState) : pushAll [] st = st := rfl
theorem pushAll_cons (a : Spec) (l : List Spec) (st : WalkState) :
    pushAll (a :: l) st = pushAll l (st.pushFront a) := rfl

theorem pushAll_eq (l : List Spec) (st : WalkState) :
    pushAll l st =
      { seen := (fresh l st.seen).reverse ++ st.seen, visiting := (fresh l st.seen).reverse ++ st.visiting,
        prev := st.prev } := by
  induction l generalizing st with
  | nil => rfl
  | cons a l ih =>
    rw [pushAll_cons, ih, WalkState.pushFront, fresh]
    by_cases h : a ∈ st.seen <;> simp [h]

theorem mem_pushAll_seen {l : List Spec} {st : WalkState} {x : Spec} :
    x ∈ (pushAll l st).seen ↔ x ∈ st.seen ∨ x ∈ l := by
  rw [pushAll_eq, List.mem_append, List.mem_reverse, mem_fresh]
  by_cases x ∈ st.seen <;> simp [*]

@[simp] theorem pushAll_prev (l : List Spec) (st : WalkState) : (pushAll l st).prev = st.prev := by
  rw [pushAll_eq]

theorem pushAll_measure {U : List Spec} (l : List Spec) (st : WalkState) (hl : ∀ x ∈ l, x ∈ U) :
    (pushAll l st).visiting.length + unseen U (pushAll l st).seen ≤ st.visiting.length + unseen U st.seen := by
  have := length_fresh_add_unseen hl st.seen
  rw [pushAll_eq, unseen_congr (seen' := st.seen ++ fresh l st.seen) fun x => by simp [or_comm]]
  simp only [List.length_append, List.length_reverse]
  omega

theorem pushAll_visiting_sub {l : List Spec} {st : WalkState} (hsub : ∀ x ∈ st.visiting, x ∈ st.seen) :
    ∀ x ∈ (pushAll l st).visiting, x ∈ (pushAll l st).seen := by
  rw [pushAll_eq]
  exact fun x hx => (List.mem_append.mp hx).elim (List.mem_append_left _) fun hx => List.mem_append_right _ (hsub x hx)

theorem nodup_pushAll_visiting {l : List Spec} {st : WalkState} (h : st.visiting.Nodup)
    (hsub : ∀ x ∈ st.visiting, x ∈ st.seen) : (pushAll l st).visiting.Nodup := by
  rw [pushAll_eq]
  exact List.nodup_append.mpr ⟨(List.reverse_perm _).nodup_iff.mpr (nodup_fresh ..), h,
    fun x hx y hy hxy => (mem_fresh.mp (List.mem_reverse.mp hx)).2 (hsub x (hxy ▸ hy))⟩

def Done (st : WalkState) (x : Spec) : Prop := x ∈ st.seen ∧ x ∉ st.visiting

theorem done_pushAll {l : List Spec} {st : WalkState} {x : Spec} :
    Done (pushAll l st) x ↔ Done st x := by
  simp only [Done, pushAll_eq, List.mem_append, List.mem_reverse]
  -- what is pushed was not seen before and is queued now
  by_cases hx : x ∈ fresh l st.seen
  · exact iff_of_false (fun h => h.2 (.inl hx)) fun h => (mem_fresh.mp hx).2 h.1
  · rw [or_iff_right hx, or_iff_right hx]

theorem mem_depTargets {kind : Tables.GraphKind} {d : Dep} {t : Spec} :
    t ∈ depTargets kind d ↔
      d.code.okSpec? = some t ∨ kind.includeTypes = true ∧ d.type.okSpec? = some t := by
  have ok (r : Res) : t ∈ (match r with | .ok s _ => [s] | _ => []) ↔ r.okSpec? = some t := by
    cases r <;> simp [Res.okSpec?, eq_comm]
  rw [depTargets, List.mem_append, List.mem_ite_nil_right]
  exact or_congr (ok _) (and_congr_right fun _ => ok _)

theorem mem_depEdgeTargets {o : WalkOpts} {deps : List Dep} {t : Spec} :
    t ∈ depEdgeTargets o deps ↔
      ∃ d ∈ deps, (d.dyn = false ∨ o.followDynamic = true) ∧ t ∈ depTargets o.kind d := by
  simp only [depEdgeTargets, List.mem_flatMap, List.mem_reverse, List.mem_ite_nil_right, Bool.or_eq_true,
    Bool.not_eq_true']

end DG
