import Proofs.Walk
/-! `walkLoop` against its specification `Enq`.  The invariant `Inv` allows one debt, the successors of the entry
yielded last; when the queue is empty and nothing is owed, `seen` is closed under the rules of `Enq`. -/
namespace DG

section
variable (g : Graph) (o : WalkOpts) (skip : Spec → Bool) (roots : List Spec)

def yieldOf (s : Spec) : Option Entry := (visitInfo g o s).2
/-- the types dependency pushed when `s` is popped -/
def push1 (s : Spec) : List Spec := (visitInfo g o s).1
/-- what is pushed on the call after `s` was yielded (nothing if the client skipped it) -/
def succOf (s : Spec) : List Spec :=
  match yieldOf g o s with
  | some e => if skip s then [] else succs o s e
  | none => []

/-- **Specification** of the specifiers a walk ever enqueues, read off the statement of the property (C15). -/
inductive Enq : Spec → Prop where
  | root {s} : s ∈ roots → Enq s
  | imp {s} : s ∈ importTargets g o.kind → Enq s
  | typesDep {s t} : Enq s → t ∈ push1 g o s → Enq t
  | succ {s t} : Enq s → t ∈ succOf g o skip s → Enq t

/-- the rules of `Enq` hold at the processed specifiers (`Done`), but for the debt to `prev`; `acc` is what they yield -/
structure Inv (st : WalkState) (acc : List (Spec × Entry)) : Prop where
  vis_sub : ∀ x ∈ st.visiting, x ∈ st.seen
  vis_nodup : st.visiting.Nodup
  sound : ∀ x ∈ st.seen, Enq g o skip roots x
  roots_in : ∀ x ∈ roots, x ∈ st.seen
  imps_in : ∀ x ∈ importTargets g o.kind, x ∈ st.seen
  done_push : ∀ x, Done st x → ∀ t ∈ push1 g o x, t ∈ st.seen
  done_succ : ∀ x, Done st x → (∀ e, st.prev ≠ some (x, e)) → ∀ t ∈ succOf g o skip x, t ∈ st.seen
  prev_ok : ∀ k e, st.prev = some (k, e) → Done st k ∧ yieldOf g o k = some e ∧ skip k = false
  acc_iff : ∀ x e, (x, e) ∈ acc ↔ (Done st x ∧ yieldOf g o x = some e)
  acc_nodup : (acc.map (·.1)).Nodup

variable {g o skip roots}

theorem mem_succOf {s t : Spec} :
    t ∈ succOf g o skip s ↔ ∃ e, yieldOf g o s = some e ∧ skip s = false ∧ t ∈ succs o s e := by
  unfold succOf
  cases yieldOf g o s <;> simp

theorem Inv.pushAll {st : WalkState} {acc} (h : Inv g o skip roots st acc) (l : List Spec)
    (hl : ∀ t ∈ l, Enq g o skip roots t) : Inv g o skip roots (pushAll l st) acc := by
  have hmono : ∀ x, x ∈ st.seen → x ∈ (DG.pushAll l st).seen := fun x hx => mem_pushAll_seen.mpr (.inl hx)
  have hp := pushAll_prev l st
  exact
    { vis_sub := pushAll_visiting_sub h.vis_sub, vis_nodup := nodup_pushAll_visiting h.vis_nodup h.vis_sub
      roots_in := fun x hx => hmono x (h.roots_in x hx),
      imps_in := fun x hx => hmono x (h.imps_in x hx), acc_nodup := h.acc_nodup
      sound := fun x hx => (mem_pushAll_seen.mp hx).elim (h.sound x) (hl x)
      done_push := fun x hx t ht => hmono t (h.done_push x (done_pushAll.mp hx) t ht)
      acc_iff := fun x e => by rw [h.acc_iff x e, done_pushAll]
      done_succ := fun x hx hne t ht => hmono t (h.done_succ x (done_pushAll.mp hx) (hp ▸ hne) t ht)
      prev_ok := fun k e hk => ⟨done_pushAll.mpr (h.prev_ok k e (hp ▸ hk)).1, (h.prev_ok k e (hp ▸ hk)).2⟩ }

theorem Inv.forget_prev {st : WalkState} {acc} (h : Inv g o skip roots st acc)
    (hs : ∀ k e, st.prev = some (k, e) → ∀ t ∈ succOf g o skip k, t ∈ st.seen) :
    Inv g o skip roots { st with prev := none } acc :=
  { vis_sub := h.vis_sub, vis_nodup := h.vis_nodup, sound := h.sound, roots_in := h.roots_in, imps_in := h.imps_in,
    done_push := h.done_push, acc_iff := h.acc_iff, acc_nodup := h.acc_nodup
    done_succ := fun x hx _ t ht => (Classical.em (∃ e, st.prev = some (x, e))).elim (fun ⟨e, he⟩ => hs x e he t ht)
      fun hn => h.done_succ x hx (fun e he => hn ⟨e, he⟩) t ht
    -- (`nofun` unfolds the state here and is much dearer)
    prev_ok := fun _ _ hp => (nomatch hp) }

theorem Inv.expandPrev {st : WalkState} {acc} (h : Inv g o skip roots st acc) :
    Inv g o skip roots (expandPrev o st) acc ∧ (expandPrev o st).prev = none := by
  unfold DG.expandPrev
  rcases hp : st.prev with _ | ⟨k, e⟩
  · exact ⟨h, hp⟩
  · obtain ⟨hk, hy, hs⟩ := h.prev_ok k e hp
    have hsucc : succOf g o skip k = succs o k e := by simp [succOf, hy, hs]
    have h2 := (h.pushAll (succs o k e) fun t ht => .succ (h.sound k hk.1) (hsucc ▸ ht)).forget_prev
      fun k' e' hp' t ht => by
        cases hp.symm.trans ((pushAll_prev ..).symm.trans hp')
        exact mem_pushAll_seen.mpr (.inr (hsucc ▸ ht))
    refine ⟨?_, pushAll_prev ..⟩
    -- pushing with `prev` dropped before or after gives the same state
    show Inv g o skip roots (DG.pushAll _ _) acc
    rw [pushAll_eq] at h2 ⊢
    exact h2

/-- `Perm`, since the pop takes `s` from behind what it has just pushed in front of it, and the invariant reads the
queue as a repetition-free set. -/
theorem Inv.remove {st : WalkState} {acc} {v : List Spec} {s : Spec}
    (h : Inv g o skip roots st acc) (hp : st.prev = none) (hv : st.visiting.Perm (s :: v))
    (hpush : ∀ t ∈ push1 g o s, t ∈ st.seen) {y : Option Entry} (hy : yieldOf g o s = y) :
    Inv g o skip roots
      { st with visiting := v, prev := y.bind fun e => if skip s then none else some (s, e) }
      ((y.map fun e => (s, e)).toList ++ acc) := by
  have hmem : ∀ x, x ∈ st.visiting ↔ x = s ∨ x ∈ v := fun x => hv.mem_iff.trans List.mem_cons
  obtain ⟨hs_out, hnd⟩ := List.nodup_cons.mp (hv.nodup_iff.mp h.vis_nodup)
  have hd : ∀ {p} x, Done { st with visiting := v, prev := p } x ↔ Done st x ∨ x = s := fun x => by
    simp only [Done, hmem, not_or]
    by_cases hx : x = s
    · simp [hx, h.vis_sub s ((hmem s).mpr (.inl rfl)), hs_out]
    · simp [hx]
  exact
    { vis_sub := fun x hx => h.vis_sub x ((hmem x).mpr (.inr hx)), vis_nodup := hnd, sound := h.sound,
      roots_in := h.roots_in, imps_in := h.imps_in,
      done_push := fun x hx => ((hd x).mp hx).elim (h.done_push x) fun e => e ▸ hpush,
      done_succ := fun x hx hne t ht => by
        rcases (hd x).mp hx with h1 | rfl
        · exact h.done_succ x h1 (fun e he => nomatch hp.symm.trans he) t ht
        · -- nothing is owed for `x` unless it is the new `prev`
          obtain ⟨e, he, hsk, -⟩ := mem_succOf.mp ht
          exact absurd (by simp [← hy, he, hsk]) (hne e)
      prev_ok := fun k e hk => by
        obtain ⟨e', rfl, hk⟩ := Option.bind_eq_some_iff.mp hk
        obtain ⟨hsk, ⟨⟩⟩ := Option.ite_none_left_eq_some.mp hk
        exact ⟨(hd s).mpr (.inr rfl), hy, Bool.eq_false_iff.mpr hsk⟩
      acc_iff := fun x e => by
        have hnew : (x, e) ∈ (y.map fun e => (s, e)).toList ↔ x = s ∧ yieldOf g o x = some e := by
          subst hy
          simp only [Option.mem_toList, Option.map_eq_some_iff, Prod.mk.injEq]
          exact ⟨fun ⟨a, h1, h2, h3⟩ => ⟨h2.symm, h2 ▸ h3 ▸ h1⟩, fun ⟨h1, h2⟩ => ⟨e, h1 ▸ h2, h1.symm, rfl⟩⟩
        rw [List.mem_append, h.acc_iff x e, hd x, hnew, or_and_right, or_comm]
      acc_nodup := by
        cases y with
        | none => exact h.acc_nodup
        | some e' =>
          refine List.nodup_cons.mpr ⟨fun hm => ?_, h.acc_nodup⟩
          obtain ⟨⟨x, e⟩, hmem', rfl⟩ := List.mem_map.mp hm
          exact ((h.acc_iff x e).mp hmem').1.2 ((hmem x).mpr (.inl rfl)) }

theorem Inv.pop {st : WalkState} {acc} {s : Spec} {rest : List Spec}
    (h : Inv g o skip roots st acc) (hp : st.prev = none) (hv : st.visiting = s :: rest) :
    let st' := DG.pushAll (push1 g o s) { st with visiting := rest }
    match yieldOf g o s with
    | none => Inv g o skip roots st' acc
    | some e => Inv g o skip roots { st' with prev := if skip s then none else some (s, e) } ((s, e) :: acc) := by
  -- push first, then take `s` out from behind what was pushed: taken out first, `s` would be processed
  -- with its types dependency not yet seen
  have h2 := h.pushAll (push1 g o s) fun t ht => .typesDep (h.sound s (h.vis_sub s (hv ▸ List.mem_cons_self))) ht
  have hrem := fun y => h2.remove (v := (fresh (push1 g o s) st.seen).reverse ++ rest) (s := s) (y := y)
    (by rw [pushAll_prev, hp]) (by rw [pushAll_eq, hv]; exact List.perm_middle)
    (fun t ht => mem_pushAll_seen.mpr (.inr ht))
  simp only [pushAll_eq] at hrem ⊢
  cases hy : yieldOf g o s with
  | none => rw [hp]; exact hrem none hy
  | some e => exact hrem (some e) hy

theorem Inv.complete {st : WalkState} {acc} (h : Inv g o skip roots st acc)
    (hp : st.prev = none) (hv : st.visiting = []) :
    ∀ x, Enq g o skip roots x → x ∈ st.seen := by
  have hdone : ∀ x, x ∈ st.seen → Done st x := fun x hx => ⟨hx, by rw [hv]; simp⟩
  intro x hx
  induction hx with
  | root hr => exact h.roots_in _ hr
  | imp hi => exact h.imps_in _ hi
  | typesDep _ ht ih => exact h.done_push _ (hdone _ ih) _ ht
  | succ _ ht ih => exact h.done_succ _ (hdone _ ih) (by intro e; rw [hp]; simp) _ ht

end

section
variable {g : Graph} {o : WalkOpts}

theorem yieldOf_eq_some {s : Spec} {e : Entry} : yieldOf g o s = some e →
    match e with
    | .module m => g.slot s = some (.module m)
    | .err mi c es => g.slot s = some (.err mi c es)
    | .redirect to => g.slot s = none ∧ g.redirect s = some to := by
  unfold yieldOf
  fun_cases visitInfo g o s with
  | case9 hs to hr => rintro ⟨⟩; exact ⟨hs, hr⟩ -- no slot, a redirect entry
  | _ => rintro ⟨⟩ <;> assumption -- the other leaves yield nothing, or the slot they have just read

theorem yieldOf_module {s : Spec} {m : Mod} (hs : g.slot s = some (.module m))
    (hk : o.kind ≠ .TypesOnly) : yieldOf g o s = some (.module m) := by
  unfold yieldOf
  revert hs
  fun_cases visitInfo g o s with
  -- the two leaves that pass over a module, both of a types-only walk
  | case2 mt deps td fc _ t r _ h => exact absurd h hk -- replaced by its types dependency
  | case4 mt deps td fc _ h => exact absurd (of_decide_eq_true (Bool.and_eq_true_iff.mp h).1) hk -- not checked
  -- at every other leaf the slot that was read is not a module, or is what is yielded
  | _ => rw [‹g.slot s = _›]; rintro ⟨⟩ <;> rfl

theorem mem_push1 {s t : Spec} : t ∈ push1 g o s →
    ∃ m td r, g.slot s = some (.module m) ∧ m.typesDep = some td ∧ td.res = .ok t r := by
  unfold push1
  fun_cases visitInfo g o s with
  -- the two leaves that push something: a JS module whose types dependency is resolved
  | case2 mt deps td fc _ t' r htd _ hs | case3 mt deps td fc _ t' r htd _ hs =>
    intro h
    cases List.mem_singleton.mp h
    obtain ⟨tdv, rfl, hr⟩ := Option.map_eq_some_iff.mp htd
    exact ⟨_, tdv, r, hs, rfl, hr⟩
  | _ => exact fun h => nomatch h

end

end DG
