import DG.FcPkg
/-! One package, by cases: `transform_package` lists every module, or at least one with diagnostics; a run
with a cache entry is the cache-less run, storing a fresh entry, unless the entry is valid and is read and kept. -/
namespace DG

theorem filter_tt {α} (l : List α) : l.filter (fun _ => true) = l := by simp
theorem filter_ff {α} (l : List α) : l.filter (fun _ => false) = [] := by simp

end DG

namespace DG.FcPkg

theorem transformPackage_cases (stop : Bool) (ms : List MRes) :
    ((∀ m ∈ ms, m.diag = false) ∧ transformPackage stop ms = (ms.map (·.spec), [])) ∨
    ((∃ m ∈ ms, m.diag = true) ∧ ∃ oks e es, transformPackage stop ms = (oks, e :: es)) := by
  fun_induction transformPackage stop ms
  · exact .inl ⟨nofun, rfl⟩
  · next m _ hm _ => exact .inr ⟨⟨m, .head _, hm⟩, _, _, _, rfl⟩
  · next m _ hm _ => exact .inr ⟨⟨m, .head _, hm⟩, _, _, _, rfl⟩
  · next m _ hm _ ih =>
    rcases ih with ⟨h, e⟩ | ⟨⟨x, hx, hd⟩, oks, e, es, he⟩
    · exact .inl ⟨List.forall_mem_cons.mpr ⟨Bool.eq_false_iff.mpr hm, h⟩, congrArg (fun r => (m.spec :: r.1, r.2)) e⟩
    · exact .inr ⟨⟨x, .tail _ hx, hd⟩, _, _, _, congrArg (fun r => (m.spec :: r.1, r.2)) he⟩

theorem outputs_diags (entrypoints ds : List Nat) :
    outputs (entrypoints.map fun e => (e, Res.diags ds)) = [] := by
  simp [outputs, List.filter_map, Function.comp_def]

theorem runWith_cases (p : Pkg) (cache : Option (List (Nat × CItem))) :
    runWith cache p = (uncached p, some (cacheItems p)) ∨
    ∃ items, cache = some items ∧ valid items (hashOf p) = true ∧
      runWith cache p = (cachedResult p.entrypoints items, some items) := by
  fun_cases runWith cache p
  · exact .inr ⟨_, rfl, ‹_›, rfl⟩
  · exact .inl rfl
  · exact .inl rfl

end DG.FcPkg
