import Proofs.BuildVisits
/-!
# No pending slot survives a finished build

The invariant `PendInv`: every pending slot has a queued request.  While a request is being handled it holds up to
the slot of that request (`PendInvEx`).  A finished loop has an empty queue, so no pending slot.
-/
namespace DG.Build
open DG Tables

/-- `ex`: the specifier of the request that has been taken off the queue and is being handled -/
def PendInvEx (ex : Option Spec) (st : St) : Prop :=
  ∀ s a, st.slot s = some (.pending a) → (∃ r ∈ st.pending, r.spec = s) ∨ ex = some s

abbrev PendInv (st : St) : Prop := PendInvEx none st

namespace PendInvEx
variable {ex : Option Spec} {st : St}

theorem same {st' : St} (h : PendInvEx ex st) (hs : Same st st') : PendInvEx ex st' := by
  rw [hs.frame]
  exact h

theorem setSlot (h : PendInvEx ex st) (k : Spec) (sl : BSlot) (hsl : ∀ a, sl ≠ .pending a) :
    PendInvEx ex (st.setSlot k sl) := by
  intro s a hs
  rw [slot_setSlot] at hs
  split at hs
  · cases hs; exact absurd rfl (hsl a)
  · exact h s a hs

theorem erase (h : PendInvEx ex st) (k : Spec) : PendInvEx ex { st with slots := erase st.slots k } := by
  intro s a hs
  rw [St.slot, lookup_erase] at hs
  split at hs
  · cases hs
  · exact h s a hs

theorem load (h : PendInvEx ex st) (w : World) (o : Opts) (count : Nat) (lo : LoadOpts) :
    PendInvEx ex (load w o count lo st) := by
  have hl := load_cases w o count lo st
  generalize Build.load w o count lo st = st' at hl ⊢
  cases hl with
  | reject e => exact h.setSlot _ _ nofun
  | skip => exact h
  | defer => rw [addDeferred_frame]; exact h
  | node => exact h.setSlot _ _ nofun
  | queue =>
    -- the queued request stands for the new pending slot
    intro s a hs
    obtain ⟨q, hq, hqs⟩ := pending_loadPendingModule w st lo count (st.resolveForLoad lo.spec)
    rw [slot_loadPendingModule] at hs
    rw [hq]
    split at hs
    · exact Or.inl ⟨q, List.mem_append_right _ (List.mem_singleton_self q), hqs.trans ‹s = _›.symm⟩
    · exact (h s a hs).imp_left fun ⟨r, hr, hrs⟩ => ⟨r, List.mem_append_left _ hr, hrs⟩

end PendInvEx

theorem PendInvEx.weaken {st : St} (h : PendInv st) (ex : Option Spec) : PendInvEx ex st :=
  fun s a hs => (h s a hs).imp_right nofun

theorem pending_load (w : World) (o : Opts) (count : Nat) (lo : LoadOpts) (st : St) :
    st.pending <+: (load w o count lo st).pending := by
  have hl := load_cases w o count lo st
  generalize load w o count lo st = st' at hl ⊢
  cases hl with
  | defer => rw [addDeferred_frame]; exact List.prefix_rfl
  | queue => exact List.prefix_append _ _
  | _ => exact List.prefix_rfl

namespace Visits
variable {w : World} {o : Opts} {xs : List Spec} {st st' : St}

theorem pendInv (hv : Visits w o xs st st') {ex : Option Spec} (h : PendInvEx ex st) : PendInvEx ex st' := by
  induction hv with
  | refl => exact h
  | load count lo _ ih => exact ih (h.load w o count lo)
  | register _ _ _ _ _ ih => exact ih h

theorem pending (hv : Visits w o xs st st') : st.pending <+: st'.pending := by
  induction hv with
  | refl => exact List.prefix_rfl
  | load count lo _ ih => exact (pending_load w o count lo _).trans ih
  | register _ _ _ _ _ ih => exact ih

end Visits

theorem slot_logCall (st : St) (r : Req) (b : Bool) (s : Spec) : (logCall st r b).slot s = st.slot s := rfl
@[simp] theorem pending_logCall (st : St) (r : Req) (b : Bool) : (logCall st r b).pending = st.pending := rfl

theorem PendInvEx.checkSpecifier {st : St} {req : Spec} (h : PendInvEx (some req) st) (tgt : Spec) :
    PendInvEx (if req = tgt then some req else none) (checkSpecifier st req tgt) := by
  intro s a hs
  rw [slot_checkSpecifier] at hs
  rw [checkSpecifier_frame]
  split at hs
  · exact absurd rfl ((unpend_eq_some.mp hs).2 a)
  · rename_i hne
    refine (h s a hs).imp_right fun hex => ?_
    cases hex
    rw [if_pos (Classical.not_not.mp fun h' => hne ⟨rfl, h'⟩)]

theorem PendInvEx.settled {st st' : St} {req tgt : Spec} {sl : BSlot}
    (h : PendInvEx (if req = tgt then some req else none) st) (hset : Settled tgt sl st st')
    (hsl : ∀ a, sl ≠ .pending a) : PendInv st' := by
  intro s a hs
  have hs' : st.slot s = some (.pending a) ∧ s ≠ tgt := by
    cases hset with
    | set =>
      rw [slot_setSlot] at hs
      split at hs
      · cases hs; exact absurd rfl (hsl a)
      · exact ⟨hs, ‹_›⟩
    | keep sl' hsl' hnp => exact ⟨hs, fun e => by rw [e, hsl'] at hs; cases hs; exact hnp a rfl⟩
  rw [hset.frame]
  refine (h s a hs'.1).imp_right fun hex => ?_
  split at hex
  · cases hex; exact absurd ‹req = tgt› hs'.2
  · cases hex

theorem PendInvEx.stepPending {r : Req} {st : St} (h : PendInvEx (some r.spec) st) (w : World) (o : Opts) :
    PendInv (Build.stepPending w o r st) := by
  obtain ⟨st1, hs, -, hcase⟩ := stepPending_shape w o r st
  have h1 := (h.checkSpecifier (tryLoad w o r).target).same hs
  rcases hcase with ⟨to, hto, e⟩ | ⟨_, he⟩
  · have hf := tryLoad_from w o r
    rw [hto] at hf h1
    rw [Outcome.target, if_neg fun heq => hf.1 heq.symm] at h1
    rw [e]
    exact h1.load w o _ _
  · exact (he.visits.pendInv h1).settled he.settled he.finished

theorem stepPending_mono (w : World) (o : Opts) (r : Req) (st : St) (q : Req) (hq : q ∈ st.pending) :
    q ∈ (stepPending w o r st).pending := by
  obtain ⟨st1, st2, _, hs, -, hv, e⟩ := stepPending_frame w o r st
  rw [e]
  exact hv.pending.subset (by rw [hs.pending, checkSpecifier_frame]; exact hq)

theorem PendInvEx.drain {ex : Option Spec} {st : St} (h : PendInvEx ex st) (w : World) (o : Opts) :
    PendInvEx ex (Build.drain w o st) := by
  have hd := drain_cases w o st
  generalize Build.drain w o st = st' at hd ⊢
  cases hd with
  | idle => exact h
  | deferred hv => exact hv.pendInv h
  | dyn hv => exact hv.pendInv h

theorem PendInv.iter {st : St} (hinv : PendInv st) (w : World) (o : Opts) : PendInv (Build.iter w o st) := by
  unfold Build.iter
  refine PendInvEx.drain ?_ w o
  rcases hp : st.pending with _ | ⟨r, rest⟩
  · exact hinv
  · refine PendInvEx.stepPending (fun s a hs => ?_) w o
    -- the head of the queue is the request being processed
    rcases hinv s a hs with ⟨q, hqm, hqs⟩ | hex
    · rw [hp] at hqm
      rcases List.mem_cons.mp hqm with rfl | hqm
      · exact Or.inr (by rw [hqs])
      · exact Or.inl ⟨q, hqm, hqs⟩
    · cases hex

theorem PendInv.runLoop {st : St} (h : PendInv st) (w : World) (o : Opts) (fuel : Nat) (out : St)
    (hrun : Build.runLoop w o fuel st = some out) : PendInv out ∧ quiescent out = true :=
  runLoop_induction w o (fun _ h => h.iter w o) fuel st out h hrun

def NoPendingSlot (st : St) : Prop := ∀ s a, st.slot s ≠ some (.pending a)

theorem NoPendingSlot.pendInv {st : St} (h : NoPendingSlot st) : PendInv st := fun s a hs => absurd hs (h s a)

theorem PendInv.noPendingSlot {st : St} (h : PendInv st) (hp : st.pending = []) : NoPendingSlot st := by
  intro s a hs
  rcases h s a hs with ⟨r, hr, _⟩ | hex
  · rw [hp] at hr; cases hr
  · cases hex

theorem runLoop_no_pending (w : World) (o : Opts) (fuel : Nat) (st out : St) (h : PendInv st)
    (hrun : runLoop w o fuel st = some out) : NoPendingSlot out := by
  obtain ⟨hinv, hq⟩ := h.runLoop w o fuel out hrun
  exact hinv.noPendingSlot (quiescent_iff.mp hq).1

theorem build_no_pending (w : World) (o : Opts) (roots : List Spec) (imports : List (Spec × List Dep))
    (fuel : Nat) (out : St) (h : build w o roots imports fuel = some out) : NoPendingSlot out :=
  runLoop_no_pending w o fuel _ out
    ((visits_initLoads w o roots _ { inDyn := o.isDynamic }).pendInv (NoPendingSlot.pendInv fun _ _ hs => nomatch hs))
    (build_eq .. ▸ h)

end DG.Build
