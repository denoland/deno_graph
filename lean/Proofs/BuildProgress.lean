import Proofs.BuildInv
/-!
# The build loop cannot spin

Every iteration that takes a request off the queue calls the loader at least once, and at most two
consecutive iterations can pass without taking one (the deferred drain, then the dynamic-branch
drain): a build that does not finish keeps calling the loader.  (Finding F13 was a loop that span
without a single call.)  This holds for every loader; that the loop ends is proved for consistent loaders in
`Proofs/BuildTerm.lean`.
-/
namespace DG.Build
open DG Tables

theorem Visits.log {w : World} {o : Opts} {xs : List Spec} {st st' : St} (hv : Visits w o xs st st') :
    st'.log = st.log := by
  rw [hv.frame]

theorem log_stepPending (w : World) (o : Opts) (r : Req) (st : St) :
    (stepPending w o r st).log.length ≥ st.log.length + 1 := by
  obtain ⟨st1, st2, _, -, hl, hv, e⟩ := stepPending_frame w o r st
  rw [e]
  show st2.log.length ≥ _
  rw [hv.log, hl, logRequest_eq]
  show (st.log ++ _ :: _).length ≥ _
  rw [List.length_append, List.length_cons]
  exact Nat.add_le_add_left (Nat.succ_le_succ (Nat.zero_le _)) _

theorem log_drain (w : World) (o : Opts) (st : St) : (drain w o st).log = st.log := by
  have hd := drain_cases w o st
  generalize drain w o st = st' at hd ⊢
  cases hd with
  | idle => rfl
  | deferred hv => exact hv.log
  | dyn hv => exact hv.log

theorem deferred_load (w : World) (o : Opts) (count : Nat) (lo : LoadOpts) (st : St) (h : NoPendingSlot st) :
    (load w o count lo st).deferred = st.deferred := by
  have hl := load_cases w o count lo st
  generalize load w o count lo st = st' at hl ⊢
  cases hl with
  | defer hs => exact absurd hs (h _ true)
  | _ => rfl

theorem Visits.deferred {w : World} {o : Opts} {xs : List Spec} {st st' : St} (hv : Visits w o xs st st')
    (h : PendInv st) (hp : st.pending = []) (hp' : st'.pending = []) : st'.deferred = st.deferred := by
  induction hv with
  | refl => rfl
  | @load _ s s' count lo hv' ih =>
    -- the queue only grows, so nothing is queued in between either, and no entry is pending
    have h1 : (Build.load w o count lo s).pending = [] := List.prefix_nil.mp (hp' ▸ hv'.pending)
    rw [ih (h.load w o count lo) h1 hp', deferred_load w o count lo s (h.noPendingSlot hp)]
  | register _ _ _ _ _ ih => exact ih h hp hp'

/-- once dynamic branches are being resolved, none is registered any more -/
def DynInv (st : St) : Prop := st.inDyn = true → st.dyn = []

theorem Visits.dynInv {w : World} {o : Opts} {xs : List Spec} {st st' : St} (hv : Visits w o xs st st')
    (h : DynInv st) : DynInv st' := by
  intro hi
  rw [hv.dyn.1] at hi
  rw [hv.dyn.2 hi]
  exact h hi

theorem DynInv.stepPending {st : St} (h : DynInv st) (w : World) (o : Opts) (r : Req) :
    DynInv (Build.stepPending w o r st) := by
  obtain ⟨st1, st2, _, hs, -, hv, e⟩ := stepPending_frame w o r st
  rw [e]
  exact hv.dynInv (by rw [DynInv, hs.inDyn, hs.dyn, checkSpecifier_frame]; exact h)

theorem DynInv.drain {st : St} (h : DynInv st) (w : World) (o : Opts) : DynInv (Build.drain w o st) := by
  have hd := drain_cases w o st
  generalize Build.drain w o st = st' at hd ⊢
  cases hd with
  | idle => exact h
  | deferred hv => exact hv.dynInv h
  | dyn hv => exact hv.dynInv fun _ => rfl

theorem DynInv.iter {st : St} (h : DynInv st) (w : World) (o : Opts) : DynInv (Build.iter w o st) := by
  unfold Build.iter
  refine DynInv.drain ?_ w o
  split
  · exact DynInv.stepPending (by exact h) w o _  -- `h` of the state without the request: `DynInv` does not read the queue
  · exact h

theorem drain_idle (w : World) (o : Opts) (st : St) (hinv : PendInv st) (hd : DynInv st) (hp : st.pending = []) :
    (drain w o st).pending ≠ [] ∨
      (drain w o st).deferred = [] ∧ (st.deferred = [] → quiescent (drain w o st) = true) := by
  by_cases hq : (drain w o st).pending = []
  · right
    have hdr := drain_cases w o st
    generalize drain w o st = st' at hdr hq ⊢
    cases hdr with
    | idle h =>
      obtain ⟨hd0, hi⟩ := h.resolve_left (· hp)
      exact ⟨hd0, fun _ => quiescent_iff.mpr ⟨hp, hd hi, hd0⟩⟩
    | deferred hv _ hne => exact ⟨hv.deferred hinv hp hq, fun h => absurd h hne⟩
    | dyn hv _ hd0 =>
      have hde := (hv.deferred hinv hp hq).trans hd0
      exact ⟨hde, fun _ => quiescent_iff.mpr ⟨hq, hv.dyn.2 rfl, hde⟩⟩
  · exact Or.inl hq

theorem idle_at_most_twice (w : World) (o : Opts) (st : St) (hinv : PendInv st) (hd : DynInv st)
    (hp : st.pending = []) :
    (iter w o st).pending ≠ [] ∨ quiescent (iter w o st) = true ∨
    (iter w o (iter w o st)).pending ≠ [] ∨ quiescent (iter w o (iter w o st)) = true := by
  have hi : ∀ st : St, st.pending = [] → iter w o st = drain w o st := fun st hp => by rw [iter, hp]
  by_cases hp1 : (iter w o st).pending = []
  · -- the first drain has emptied the deferred table, so the second finishes unless it queues something
    refine .inr (.inr ?_)
    have h1 := drain_idle w o st hinv hd hp
    rw [← hi st hp] at h1
    have h2 := drain_idle w o _ (hinv.iter w o) (hd.iter w o) hp1
    rw [← hi _ hp1] at h2
    exact h2.imp_right fun h2 => h2.2 (h1.resolve_left (· hp1)).1
  · exact Or.inl hp1

end DG.Build
