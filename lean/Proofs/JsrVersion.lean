import DG.JsrVersion
/-! `resolveVersion` in closed form (`resolveVersion_eq`), for every input list: the version selected is
`List.max?` of the candidates' versions, the flag says whether any version satisfied the requirement. -/
namespace DG.Jsr

/-- a version the fold may select -/
def Cand (sat : Nat → Bool) (cutoff : Option Nat) (v : Nat × Option VInfo) : Prop :=
  sat v.1 = true ∧ dateOk v.2 cutoff = true

variable (sat : Nat → Bool) (cutoff : Option Nat)

def candVersions (vs : List (Nat × Option VInfo)) : List Nat :=
  (vs.filter fun p => sat p.1 && dateOk p.2 cutoff).map (·.1)

theorem stepVersion_eq (a : Acc) (v : Nat × Option VInfo) : stepVersion sat cutoff a v =
    { best := if sat v.1 && dateOk v.2 cutoff then some (match a.best with | some b => max b v.1 | none => v.1)
              else a.best,
      hadHigher := a.hadHigher || sat v.1 } := by
  obtain ⟨_ | b, h⟩ := a <;> unfold stepVersion <;> cases sat v.1 <;> cases dateOk v.2 cutoff <;> simp
  -- left over: a candidate against a best so far, `if b < v.1 then some v.1 else some b`
  by_cases hlt : b < v.1
  · rw [if_pos hlt, Nat.max_eq_right (Nat.le_of_lt hlt)]
  · rw [if_neg hlt, Nat.max_eq_left (Nat.le_of_not_lt hlt)]

variable {sat cutoff} in
theorem mem_candVersions {vs : List (Nat × Option VInfo)} {v : Nat} :
    v ∈ candVersions sat cutoff vs ↔ ∃ p ∈ vs, p.1 = v ∧ Cand sat cutoff p :=
  List.mem_map.trans (exists_congr fun p => by
    rw [List.mem_filter, Bool.and_eq_true, and_assoc, and_comm (b := p.1 = v)]; rfl)

variable {sat cutoff} in
theorem forall_mem_candVersions {vs : List (Nat × Option VInfo)} {P : Nat → Prop} :
    (∀ v ∈ candVersions sat cutoff vs, P v) ↔ ∀ p ∈ vs, Cand sat cutoff p → P p.1 :=
  ⟨fun h p hp hc => h _ (mem_candVersions.mpr ⟨p, hp, rfl, hc⟩), fun h v hv => by
    obtain ⟨p, hp, rfl, hc⟩ := mem_candVersions.mp hv
    exact h p hp hc⟩

theorem foldl_stepVersion (vs : List (Nat × Option VInfo)) (a : Acc) :
    vs.foldl (stepVersion sat cutoff) a =
      { best := (a.best.toList ++ candVersions sat cutoff vs).max?, hadHigher := a.hadHigher || vs.any (sat ·.1) } := by
  induction vs generalizing a with
  | nil => obtain ⟨_ | b, _⟩ := a <;> exact congrArg _ (Bool.or_false _).symm
  | cons v vs ih =>
    rw [List.foldl_cons, ih, stepVersion_eq, List.any_cons, ← Bool.or_assoc]
    unfold candVersions
    rw [List.filter_cons]
    -- a candidate joins the list behind `a.best`; `(b :: l).max?` is `some (l.foldl max b)` by definition
    cases sat v.1 && dateOk v.2 cutoff
    · rfl
    · obtain ⟨_ | b, _⟩ := a <;> rfl

theorem resolveVersion_eq (versions : List (Nat × Option VInfo)) :
    resolveVersion sat cutoff versions =
      { best := (candVersions sat cutoff versions).max?, hadHigher := versions.any (sat ·.1) } :=
  foldl_stepVersion sat cutoff versions _

theorem resolveVersion_best (versions : List (Nat × Option VInfo)) :
    (resolveVersion sat cutoff versions).best = (candVersions sat cutoff versions).max? :=
  congrArg Acc.best (resolveVersion_eq sat cutoff versions)

theorem resolveVersion_hadHigher (versions : List (Nat × Option VInfo)) :
    (resolveVersion sat cutoff versions).hadHigher = versions.any (sat ·.1) :=
  congrArg Acc.hadHigher (resolveVersion_eq sat cutoff versions)

theorem max?_congr {l l' : List Nat} (h : ∀ x, x ∈ l ↔ x ∈ l') : l.max? = l'.max? :=
  Option.ext fun v => by simp only [List.max?_eq_some_iff, h]

theorem yanked_append_unyanked (infos : List (Nat × VInfo)) :
    (yankedList infos ++ unyankedList infos).Perm (infos.map fun p => (p.1, some p.2)) :=
  List.map_append ▸ (List.filter_append_perm _ infos).map _

variable {sat} in
theorem tier1_cand {v : Nat} : Cand sat none (v, none) ↔ sat v = true := by
  simp [Cand, dateOk]

theorem cached_guard_redundant (infos : List (Nat × VInfo)) (C : List Nat) :
    (if C.isEmpty then none else (resolveVersion sat cutoff (cachedList infos C)).best) =
      (resolveVersion sat cutoff (cachedList infos C)).best := by
  cases C with
  | cons => rfl
  | nil =>
    have : cachedList infos [] = [] := by simp [cachedList]
    rw [this]; rfl

theorem cutoffFor_eq (date : Option Nat) (excluded prefixes : List (List Char)) (name : List Char) :
    cutoffFor date excluded prefixes name =
      if name ∈ excluded ∨ ∃ p ∈ prefixes, p.isPrefixOf name = true then none else date := by
  cases date with
  | none => exact (ite_self _).symm
  | some d => simp only [cutoffFor, Bool.or_eq_true, List.contains_iff_mem, List.any_eq_true]

end DG.Jsr
