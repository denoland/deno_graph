import DG.FcDeps
import Proofs.OrdSet
/-! The queue of packages: what is analysed is the closure of the top-level packages under the
recorded dependencies; if every package a trace enters is recorded, a cache changes nothing. -/
namespace DG.FcDeps

inductive Reach (w : World) (top : List Nat) : Nat → Prop
  | top {p} : p ∈ top → Reach w top p
  | dep {p q} : Reach w top p → q ∈ (w.pkg p).recorded → Reach w top q

theorem foldl_enqueue (p : Nat) (l : List Nat) (s : St) : l.foldl (enqueue p) s =
    { s with seen := s.seen ++ fresh (l.filter (· != p)) s.seen,
             queue := s.queue ++ fresh (l.filter (· != p)) s.seen } := by
  induction l generalizing s with
  | nil => simp [fresh]
  | cons q l ih =>
    rw [List.foldl_cons, ih]
    by_cases hq : q = p
    · rw [enqueue, if_pos (.inl hq), List.filter_cons_of_neg (by simp [hq])]
    · rw [List.filter_cons_of_pos (by simpa using hq), fresh]
      by_cases hs : s.seen.contains q = true
      · rw [enqueue, if_pos (.inr hs), if_pos hs]
      · rw [enqueue, if_neg (not_or.mpr ⟨hq, hs⟩), if_neg hs,
          fresh_congr (seen := s.seen ++ [q]) (seen' := q :: s.seen) fun x => by simp [or_comm]]
        simp

/-- The invariant of the queue: `seen` is `analysed` and `queue` taken together, between `top` and what is
reachable.  `closed` excepts the package itself: `enqueue` skips `q = p`, a package does not queue itself. -/
structure Inv (w : World) (top : List Nat) (s : St) : Prop where
  closed : ∀ p ∈ s.analysed, ∀ q ∈ (w.pkg p).recorded, q ≠ p → q ∈ s.seen
  placed : ∀ q ∈ s.seen, q ∈ s.analysed ∨ q ∈ s.queue
  reach : ∀ q ∈ s.seen, Reach w top q
  seenA : ∀ q ∈ s.analysed, q ∈ s.seen
  seenQ : ∀ q ∈ s.queue, q ∈ s.seen
  topSeen : ∀ q ∈ top, q ∈ s.seen

theorem inv_init (w : World) (top : List Nat) : Inv w top (init top) where
  closed := nofun
  placed := fun _ => .inr
  reach := fun _ => .top
  seenA := nofun
  seenQ := fun _ h => h
  topSeen := fun _ h => h

theorem inv_step {w : World} {top : List Nat} {s : St} (h : Inv w top s) : Inv w top (step w s) := by
  unfold step
  cases hq : s.queue with
  | nil => simpa [hq] using h
  | cons p rest =>
    have hp : p ∈ s.seen := h.seenQ p (by simp [hq])
    simp only [foldl_enqueue]
    refine ⟨?closed, ?placed, ?reach, ?seenA, ?seenQ, ?topSeen⟩ <;>
      simp only [List.mem_append, List.mem_singleton, mem_fresh, List.mem_filter, bne_iff_ne]
    case closed =>
      rintro a (ha | rfl) q hqr hne
      · exact .inl (h.closed a ha q hqr hne)
      · exact Classical.or_iff_not_imp_left.mpr fun hs => ⟨⟨hqr, hne⟩, hs⟩
    case placed =>
      rintro q (hqs | hqf)
      · rcases h.placed q hqs with h2 | h2
        · exact .inl (.inl h2)
        · rcases List.mem_cons.mp (hq ▸ h2) with rfl | h2
          · exact .inl (.inr rfl)
          · exact .inr (.inl h2)
      · exact .inr (.inr hqf)
    case reach =>
      rintro q (hqs | ⟨⟨hqr, -⟩, -⟩)
      · exact h.reach q hqs
      · exact .dep (h.reach p hp) hqr
    case seenA =>
      rintro q (hqa | rfl)
      · exact .inl (h.seenA q hqa)
      · exact .inl hp
    case seenQ =>
      rintro q (hqr | hqf)
      · exact .inl (h.seenQ q (by simp [hq, hqr]))
      · exact .inr hqf
    case topSeen => exact fun q hqt => .inl (h.topSeen q hqt)

theorem inv_run {w : World} {top : List Nat} {fuel : Nat} {s s' : St} :
    Inv w top s → run w fuel s = some s' → Inv w top s' ∧ s'.queue = [] := by
  fun_induction run w fuel s <;> intro h hr
  · cases hr; exact ⟨h, List.isEmpty_iff.1 ‹_›⟩
  · cases hr
  · cases hr; exact ⟨h, List.isEmpty_iff.1 ‹_›⟩
  · next ih => exact ih (inv_step h) hr

theorem cache_transparent {w : World} {top : List Nat} {s : St}
    (hrec : ∀ p q, q ∈ (w.pkg p).touched → q = p ∨ q ∈ (w.pkg p).recorded)
    (hs : ∀ q, q ∈ s.analysed ↔ Reach w top q) (stale : Nat → Bool) (q : Nat) :
    q ∈ outputs w stale s ↔ q ∈ s.analysed := by
  refine ⟨fun hq => ?_, List.mem_append_left _⟩
  rcases List.mem_append.mp hq with hq | hq
  · exact hq
  · obtain ⟨p, hp, hqt⟩ := List.mem_flatMap.mp hq
    have hpa : p ∈ s.analysed := (List.mem_filter.mp hp).1
    rcases hrec p q hqt with rfl | hqr
    · exact hpa
    · exact (hs q).mpr (.dep ((hs p).mp hpa) hqr)

def allRecorded (w : World) : List Nat := w.flatMap (·.recorded)

theorem recorded_in_all {w : World} {p q : Nat} (h : q ∈ (w.pkg p).recorded) : q ∈ allRecorded w :=
  mem_flatMap_getD (f := Pkg.recorded) rfl h

/-- the measure: a step takes one package from the queue and queues only packages not seen before, all of
them among `allRecorded w` -/
theorem run_terminates (w : World) (fuel : Nat) (s : St) :
    s.queue.length + unseen (allRecorded w) s.seen ≤ fuel → ∃ s', run w fuel s = some s' := by
  fun_induction run w fuel s <;> intro h
  · exact ⟨_, rfl⟩
  · next s hq => cases hs : s.queue <;> simp [hs] at h hq
  · exact ⟨_, rfl⟩
  · next f s hq ih =>
    apply ih
    cases hs : s.queue with
    | nil => simp [hs] at hq
    | cons p rest =>
      have := length_fresh_add_unseen (U := allRecorded w) (l := (w.pkg p).recorded.filter (· != p))
        (fun q hq => recorded_in_all (List.mem_filter.mp hq).1) s.seen
      simp only [step, hs, foldl_enqueue, List.length_append]
      simp only [hs, List.length_cons] at h
      omega

end DG.FcDeps
