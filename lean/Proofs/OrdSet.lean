/-! Lists as ordered sets.  Every worklist of the model (`pushAll` of the walk, `addSeen` of
`prune_types`, `dedup`, the package queue's `enqueue`, the tracer's `ins`) inserts candidates one by
one, skipping what its `seen` set has: each time `fresh l seen` is put in front of, or behind, what
the worklist keeps, and the termination arguments share one count, `unseen`.  The maps of the model
are association lists in insertion order; replace-or-append is `insEnd` on the keys. -/
namespace DG
variable {α : Type} [BEq α] [LawfulBEq α]

/-- the elements of `l` not in `seen`, each once, in order -/
def fresh : List α → List α → List α
  | [], _ => []
  | a :: l, seen => if seen.contains a then fresh l seen else a :: fresh l (a :: seen)

theorem mem_fresh {l seen : List α} {x : α} : x ∈ fresh l seen ↔ x ∈ l ∧ x ∉ seen := by
  induction l generalizing seen with
  | nil => simp [fresh]
  | cons a l ih =>
    rw [fresh]
    split
    · rename_i ha
      refine ih.trans (and_congr_left fun hx => ?_)
      exact ⟨List.mem_cons_of_mem a, fun h => (List.mem_cons.mp h).resolve_left
        fun e => hx (e ▸ List.contains_iff_mem.mp ha)⟩
    · rename_i ha
      have ha : a ∉ seen := fun h => ha (List.contains_iff_mem.mpr h)
      rw [List.mem_cons, ih, List.mem_cons, List.mem_cons]
      by_cases hxa : x = a
      · simp [hxa, ha]
      · simp [hxa]

theorem nodup_fresh (l seen : List α) : (fresh l seen).Nodup := by
  induction l generalizing seen with
  | nil => exact List.nodup_nil
  | cons a l ih =>
    rw [fresh]
    split
    · exact ih seen
    · exact List.nodup_cons.mpr ⟨fun h => (mem_fresh.mp h).2 List.mem_cons_self, ih _⟩

theorem fresh_congr {l seen seen' : List α} (h : ∀ x, x ∈ seen ↔ x ∈ seen') :
    fresh l seen = fresh l seen' := by
  induction l generalizing seen seen' with
  | nil => rfl
  | cons a l ih =>
    have hc : seen.contains a = seen'.contains a := by
      rw [Bool.eq_iff_iff, List.contains_iff_mem, List.contains_iff_mem]; exact h a
    rw [fresh, fresh, hc, ih h, ih (seen := a :: seen) (seen' := a :: seen') fun x => by
      rw [List.mem_cons, List.mem_cons, h x]]

/-- `IndexSet::insert` on a list -/
abbrev insEnd (l : List α) (x : α) : List α := if l.contains x then l else l ++ [x]

theorem foldl_insEnd (xs l : List α) : xs.foldl insEnd l = l ++ fresh xs l := by
  induction xs generalizing l with
  | nil => simp [fresh]
  | cons a xs ih =>
    rw [List.foldl_cons, ih, insEnd, fresh]
    split
    · rfl
    · rw [List.append_assoc, fresh_congr (seen' := a :: l) fun x => by simp [or_comm]]
      rfl

theorem mem_foldl_insEnd {xs l : List α} {y : α} : y ∈ xs.foldl insEnd l ↔ y ∈ l ∨ y ∈ xs := by
  rw [foldl_insEnd, List.mem_append, mem_fresh]
  by_cases y ∈ l <;> simp [*]

theorem nodup_foldl_insEnd {xs l : List α} (h : l.Nodup) : (xs.foldl insEnd l).Nodup := by
  rw [foldl_insEnd]
  exact List.nodup_append.mpr ⟨h, nodup_fresh .., fun x hx y hy hxy => (mem_fresh.mp hy).2 (hxy ▸ hx)⟩

theorem mem_insEnd {l : List α} {x y : α} : y ∈ insEnd l x ↔ y ∈ l ∨ y = x :=
  (mem_foldl_insEnd (xs := [x])).trans (or_congr_right List.mem_singleton)

theorem nodup_insEnd {l : List α} (h : l.Nodup) (x : α) : (insEnd l x).Nodup :=
  nodup_foldl_insEnd (xs := [x]) h

section
variable {β γ : Type _}

theorem mem_of_lookup_eq_some {l : List (α × β)} {k : α} {v : β} (h : l.lookup k = some v) : (k, v) ∈ l := by
  obtain ⟨l₁, l₂, rfl, -⟩ := List.lookup_eq_some_iff.mp h
  exact List.mem_append_right _ List.mem_cons_self

theorem lookup_of_mem_nodup {l : List (α × β)} (hnd : (l.map (·.1)).Nodup) {k : α} {v : β}
    (h : (k, v) ∈ l) : l.lookup k = some v := by
  induction l with
  | nil => cases h
  | cons p r ih =>
    rw [List.map_cons, List.nodup_cons] at hnd
    rcases List.mem_cons.mp h with rfl | h
    · exact List.lookup_cons_self
    · rw [List.lookup_cons, beq_false_of_ne fun e => hnd.1 (List.mem_map.mpr ⟨_, h, e⟩), ih hnd.2 h]

theorem lookup_isSome_eq_any (l : List (α × β)) (k : α) : (l.lookup k).isSome = l.any (·.1 == k) := by
  rw [Bool.eq_iff_iff, List.lookup_isSome_iff, List.any_eq_true]
  exact exists_congr fun p => and_congr_right fun _ => by rw [BEq.comm]

theorem lookup_map_key (f : α × β → α × γ) (hf : ∀ p, (f p).1 = p.1) (l : List (α × β)) (s : α) :
    (l.map f).lookup s = (l.lookup s).map fun b => (f (s, b)).2 := by
  induction l with
  | nil => rfl
  | cons a l ih =>
    rw [List.map_cons, List.lookup_cons, List.lookup_cons, hf, ih]
    by_cases h : s = a.1
    · rw [h, beq_self_eq_true]; rfl
    · rw [beq_false_of_ne h]

theorem lookup_filter_key (f : α → Bool) (l : List (α × β)) (k : α) :
    (l.filter fun p => f p.1).lookup k = if f k then l.lookup k else none := by
  induction l with
  | nil => exact (ite_self _).symm
  | cons p l ih =>
    rw [List.filter_cons, List.lookup_cons, apply_ite (List.lookup k), List.lookup_cons, ih]
    by_cases hk : k = p.1
    · rw [← hk, beq_self_eq_true]; split <;> rfl
    · rw [beq_false_of_ne hk]; exact ite_self _

omit [BEq α] [LawfulBEq α] in
theorem nodup_keys_filterMap {δ ε : Type _} {key : δ → α} {key' : ε → α} {l : List δ} {f : δ → Option ε}
    (hf : ∀ {p q}, f p = some q → key' q = key p) (hnd : (l.map key).Nodup) :
    ((l.filterMap f).map key').Nodup :=
  List.pairwise_map.mpr ((List.pairwise_map.mp hnd).filterMap f fun p p' h q hq q' hq' => by
    rwa [hf hq, hf hq'])

theorem lookup_filterMap {l : List (α × β)} {f : α × β → Option (α × γ)}
    (hf : ∀ {p q}, f p = some q → q.1 = p.1) (hnd : (l.map (·.1)).Nodup) {k : α} {v : β} (h : (k, v) ∈ l) :
    (l.filterMap f).lookup k = (f (k, v)).map (·.2) := by
  cases hq : f (k, v) with
  | some q =>
    exact lookup_of_mem_nodup (nodup_keys_filterMap hf hnd) (List.mem_filterMap.mpr
      ⟨_, h, hq.trans (congrArg some (Prod.ext (hf hq) rfl))⟩)
  | none =>
    -- an entry of the result under `k` comes from an entry of `l` under `k`, and that is `(k, v)`
    refine List.lookup_eq_none_iff.mpr fun q hq' => bne_iff_ne.mpr fun e => ?_
    obtain ⟨p, hp, hfp⟩ := List.mem_filterMap.mp hq'
    have hk : p.1 = k := (hf hfp).symm.trans e.symm
    have := (lookup_of_mem_nodup hnd (hk ▸ hp : (k, p.2) ∈ l)).symm.trans (lookup_of_mem_nodup hnd h)
    rw [← hk, ← Option.some.inj this, hfp] at hq
    cases hq

/-- the `if` is the shape of `Build.upsert` and `Deps.upd` -/
theorem keys_setOrAdd (key : γ → α) (f : γ → γ) (b : γ) (l : List γ) (k : α)
    (hf : ∀ d, key d = k → key (f d) = k) (hb : key b = k) :
    (if l.any (key · == k) then l.map fun d => if key d == k then f d else d else l ++ [b]).map key =
      insEnd (l.map key) k := by
  have hc : (l.map key).contains k = l.any (key · == k) := by
    rw [List.contains_eq_any_beq, List.any_map]
    exact congrArg l.any (funext fun d => BEq.comm)
  rw [insEnd, hc, apply_ite (List.map key), List.map_append, List.map_map, List.map_singleton, hb]
  refine ite_congr rfl (fun _ => List.map_congr_left fun d _ => ?_) fun _ => rfl
  rw [Function.comp, apply_ite key]
  split
  · next h => exact (hf d (beq_iff_eq.mp h)).trans (beq_iff_eq.mp h).symm
  · rfl

end

/-- `getD` with a default that lists nothing: how the models read their worlds (lists of modules, of packages) -/
theorem mem_flatMap_getD {δ ε : Type _} {f : δ → List ε} {d : δ} (hd : f d = []) {l : List δ} {i : Nat} {x : ε}
    (hx : x ∈ f (l.getD i d)) : x ∈ l.flatMap f := by
  rw [List.getD_eq_getElem?_getD] at hx
  cases hm : l[i]? with
  | none => rw [hm, Option.getD_none, hd] at hx; cases hx
  | some a => rw [hm] at hx; exact List.mem_flatMap.mpr ⟨a, List.mem_of_getElem? hm, hx⟩

theorem foldl_inv_prefix {ι σ : Type _} {f : σ → ι → σ} (P : List ι → σ → Prop) (l : List ι) (b : σ)
    (h0 : P [] b) (hstep : ∀ done a b, a ∈ l → P done b → P (done ++ [a]) (f b a)) :
    P l (l.foldl f b) := by
  suffices ∀ todo done b, (∀ a ∈ todo, a ∈ l) → P done b → P (done ++ todo) (todo.foldl f b) from
    this l [] b (fun _ h => h) h0
  intro todo
  induction todo with
  | nil => intro done b _ h; rwa [List.append_nil]
  | cons a todo ih =>
    intro done b hsub h
    rw [List.append_cons]
    exact ih _ _ (fun x hx => hsub x (.tail _ hx)) (hstep done a b (hsub a (.head _)) h)

theorem countP_lt_of_imp {l : List α} {p q : α → Bool} (h : ∀ a ∈ l, p a = true → q a = true)
    {x : α} (hx : x ∈ l) (hq : q x = true) (hp : p x = false) : l.countP p < l.countP q := by
  have hperm := List.perm_cons_erase hx
  rw [hperm.countP_eq, hperm.countP_eq, List.countP_cons_of_neg (by simp [hp]), List.countP_cons_of_pos hq]
  exact Nat.lt_succ_of_le (List.countP_mono_left fun a ha => h a (List.mem_of_mem_erase ha))

theorem countP_le_succ_of_imp_except {l : List α} (hl : l.Nodup) {p q : α → Bool} {k : α}
    (h : ∀ a ∈ l, a ≠ k → p a = true → q a = true) : l.countP p ≤ l.countP q + 1 := by
  by_cases hk : k ∈ l
  · have hperm := List.perm_cons_erase hk
    have hmono : (l.erase k).countP p ≤ (l.erase k).countP q :=
      List.countP_mono_left fun a ha => h a (List.mem_of_mem_erase ha) (hl.mem_erase_iff.mp ha).1
    rw [hperm.countP_eq, hperm.countP_eq, List.countP_cons, List.countP_cons]
    exact Nat.add_le_add (Nat.le_trans hmono (Nat.le_add_right _ _)) (by split <;> decide)
  · exact Nat.le_succ_of_le (List.countP_mono_left fun a ha => h a ha fun e => hk (e ▸ ha))

/-- the members of the universe `U` not seen yet: what the loop of a worklist may still queue -/
def unseen (U seen : List α) : Nat := U.countP fun x => !seen.contains x

omit [LawfulBEq α] in
theorem unseen_le_length (U seen : List α) : unseen U seen ≤ U.length := List.countP_le_length

theorem unseen_lt_of_subset {U seen seen' : List α} {a : α} (ha : a ∈ U) (hn : a ∉ seen)
    (ha' : a ∈ seen') (hsub : ∀ x ∈ seen, x ∈ seen') : unseen U seen' < unseen U seen :=
  countP_lt_of_imp (fun x _ hx => by
      rw [Bool.not_eq_true', List.contains_eq_mem, decide_eq_false_iff_not] at hx ⊢
      exact fun h => hx (hsub x h)) ha
    (by simpa using hn) (by simpa using ha')

theorem unseen_lt {U seen : List α} {a : α} (ha : a ∈ U)
    (hn : seen.contains a = false) : unseen U (seen ++ [a]) < unseen U seen :=
  unseen_lt_of_subset ha (by simpa using hn) (by simp) fun _ h => List.mem_append_left _ h

theorem unseen_congr {U seen seen' : List α} (h : ∀ x, x ∈ seen ↔ x ∈ seen') : unseen U seen = unseen U seen' :=
  List.countP_congr fun x _ => by simp only [List.contains_eq_mem, h x]

theorem length_fresh_add_unseen {U l : List α} (hl : ∀ x ∈ l, x ∈ U) (seen : List α) :
    (fresh l seen).length + unseen U (seen ++ fresh l seen) ≤ unseen U seen := by
  induction l generalizing seen with
  | nil => simp [fresh]
  | cons a l ih =>
    have ih := ih fun x hx => hl x (List.mem_cons_of_mem _ hx)
    rw [fresh]
    split
    · exact ih seen
    · rename_i ha
      have h1 := ih (a :: seen)
      have h2 : unseen U (a :: seen) < unseen U seen :=
        unseen_lt_of_subset (hl a List.mem_cons_self) (by simpa using ha) List.mem_cons_self
          fun _ h => List.mem_cons_of_mem _ h
      have h3 : unseen U (seen ++ a :: fresh l (a :: seen)) = unseen U (a :: seen ++ fresh l (a :: seen)) :=
        unseen_congr fun x => by simp [or_left_comm]
      rw [List.length_cons, h3]
      omega

end DG
