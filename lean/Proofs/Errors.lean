import DG.Walk
/-! What the error iterator looks at in a module: one traversal, shared by `entryErrors` and `entrySurfaced`. -/
namespace DG
open Tables
variable {β : Type} (o : WalkOpts) (key : Spec) (m : Mod)

/-- `f` is given `types fileText resolution dynamic` -/
def scan (f : Bool → Bool → Res → Bool → Option β) : List β :=
  (if o.kind.includeTypes then
    match m.typesDep with
    | some td => (f true td.fileText td.res false).toList
    | none => []
  else []) ++
  (walkDeps o key m).flatMap fun d =>
    if o.followDynamic || !d.dyn then
      (f false d.fileText d.code d.dyn).toList ++
      (if o.kind.includeTypes && isCheckable o key m.mediaType then (f true d.fileText d.type d.dyn).toList else [])
    else []

theorem entryErrors_module (g : Graph) :
    entryErrors g o key (.module m) = scan o key m (checkResolution g o key) := rfl

theorem entrySurfaced_module (g : Graph) :
    entrySurfaced g o key (.module m) = scan o key m (fun _ ft r _ => surfacedKey g o key ft r) := rfl

variable {o key m}

theorem mem_scan {f : Bool → Bool → Res → Bool → Option β} {x : β} :
    x ∈ scan o key m f ↔
      (o.kind.includeTypes = true ∧ ∃ td, m.typesDep = some td ∧ f true td.fileText td.res false = some x) ∨
      ∃ d ∈ walkDeps o key m, (o.followDynamic = true ∨ d.dyn = false) ∧
        (f false d.fileText d.code d.dyn = some x ∨
          (o.kind.includeTypes && isCheckable o key m.mediaType) = true ∧
            f true d.fileText d.type d.dyn = some x) := by
  unfold scan
  rw [List.mem_append, List.mem_flatMap, List.mem_ite_nil_right]
  refine or_congr (and_congr_right fun _ => ?_) (exists_congr fun d => and_congr_right fun _ => ?_)
  · cases m.typesDep <;> simp
  · simp only [List.mem_ite_nil_right, List.mem_append, Option.mem_toList, Bool.or_eq_true, Bool.not_eq_true']
end DG
