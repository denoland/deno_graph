import DG.Exports
import Proofs.OrdSet
/-! Export resolution (`DG.Sym` is the model's namespace).  Merging a star target's exports (`addInner`) is,
on names, the guarded batch insert and, on entries, an append; the traversal `go` returns only justified
entries and, with fuel above the number of modules not yet visited, meets `Good`. -/
namespace DG.Sym

theorem names_append (a b : Resolved) : names (a ++ b) = names a ++ names b := List.map_append

theorem names_addInner (acc inner : Resolved) :
    names (addInner acc inner) = ((names inner).filter (· != 0)).foldl insEnd (names acc) := by
  unfold addInner
  induction inner generalizing acc with
  | nil => rfl
  | cons p r ih =>
    rw [List.foldl_cons, ih, show names (p :: r) = p.1 :: names r from rfl]
    by_cases h0 : p.1 = 0
    · rw [if_pos (.inl h0), List.filter_cons_of_neg (by simp [h0])]
    · rw [List.filter_cons_of_pos (by simpa using h0), List.foldl_cons, insEnd]
      by_cases hc : (names acc).contains p.1 = true
      · rw [if_pos (.inr hc), if_pos hc]
      · rw [if_neg (not_or.mpr ⟨h0, hc⟩), if_neg hc, names_append]
        rfl

theorem mem_names_addInner {acc inner : Resolved} {n : Nat} :
    n ∈ names (addInner acc inner) ↔ n ∈ names acc ∨ n ∈ names inner ∧ n ≠ 0 := by
  rw [names_addInner, mem_foldl_insEnd, List.mem_filter, bne_iff_ne]

theorem addInner_eq_append (acc inner : Resolved) :
    ∃ rest, addInner acc inner = acc ++ rest ∧ ∀ q ∈ rest, q ∈ inner ∧ q.1 ≠ 0 :=
  List.foldlRecOn inner _ (motive := fun a => ∃ rest, a = acc ++ rest ∧ ∀ q ∈ rest, q ∈ inner ∧ q.1 ≠ 0)
    ⟨[], (List.append_nil _).symm, nofun⟩ fun a ⟨rest, e, h⟩ p hp => by
      split
      · exact ⟨rest, e, h⟩
      · next hc =>
        refine ⟨rest ++ [p], by rw [e, List.append_assoc], fun q hq => (List.mem_append.mp hq).elim (h q) fun hq => ?_⟩
        cases List.mem_singleton.mp hq
        exact ⟨hp, (not_or.mp hc).1⟩

theorem go_sound {w : World} {f : Nat} {v : List Nat} {m : Nat} {q : Nat × Nat} : q ∈ (go w f v m).2 →
    Reach w m q.2 ∧ q.1 ∈ (w.mod q.2).own ∧ (q.2 = m ∨ q.1 ≠ 0) := by
  induction f generalizing v m q with
  | zero => simp [go]
  | succ f ih =>
    simp only [go]
    split
    · simp
    refine List.foldlRecOn (motive := fun st : List Nat × Resolved => ∀ q ∈ st.2,
      Reach w m q.2 ∧ q.1 ∈ (w.mod q.2).own ∧ (q.2 = m ∨ q.1 ≠ 0)) _ _ ?_ ?_ q
    · intro q hq
      obtain ⟨n, hn, rfl⟩ := List.mem_map.mp hq
      exact ⟨Reach.refl m, hn, Or.inl rfl⟩
    · rintro st hst (_ | t) hs q hq
      · exact hst q hq
      · obtain ⟨rest, e, hrest⟩ := addInner_eq_append st.2 (go w f st.1 t).2
        rcases List.mem_append.mp (e ▸ hq : q ∈ st.2 ++ rest) with h1 | h1
        · exact hst q h1
        · obtain ⟨r1, r2, _⟩ := ih (hrest q h1).1
          exact ⟨Reach.step hs r1, r2, Or.inr (hrest q h1).2⟩

end DG.Sym

/-! `WF` stands in the statements of `Theorems/C16.lean`, hence the namespace. -/
namespace DG.C16
open DG.Sym

variable (w : World)

/-- well-formed world: star targets are modules of the world -/
def WF : Prop := ∀ m t, some t ∈ (w.mod m).stars → t < w.length

/-- what a call `go w f v m` with enough fuel establishes of its result.  Closure and names only for the
modules the call visited itself (`x ∉ v`): one visited before belongs to another call, which on a cycle of
re-exports has not returned yet. -/
structure Good (v : List Nat) (m : Nat) (res : List Nat × Resolved) : Prop where
  sub : ∀ x ∈ v, x ∈ res.1
  self : m ∈ res.1
  closed : ∀ x ∈ res.1, x ∉ v → ∀ t, some t ∈ (w.mod x).stars → t ∈ res.1
  named : ∀ x ∈ res.1, x ∉ v → ∀ n ∈ (w.mod x).own, (x = m ∨ n ≠ 0) → n ∈ names res.2

/-- `Good` while the star re-exports of `m` are merged: of `m`'s own star targets only those in `done`,
the part merged so far, are known to be visited -/
structure Mid (v : List Nat) (m : Nat) (done : List (Option Nat)) (st : List Nat × Resolved) : Prop where
  sub : ∀ x ∈ m :: v, x ∈ st.1
  stars : ∀ t, some t ∈ done → t ∈ st.1
  closed : ∀ x ∈ st.1, x ∉ v → x ≠ m → ∀ t, some t ∈ (w.mod x).stars → t ∈ st.1
  named : ∀ x ∈ st.1, x ∉ v → ∀ n ∈ (w.mod x).own, (x = m ∨ n ≠ 0) → n ∈ names st.2

def unvisited (v : List Nat) : Nat := unseen (List.range w.length) v

theorem unvisited_le (v : List Nat) : unvisited w v ≤ w.length :=
  Nat.le_trans (unseen_le_length _ v) (Nat.le_of_eq List.length_range)

variable {w} {v : List Nat} {m : Nat} {done : List (Option Nat)} {st res : List Nat × Resolved}

theorem Good.reach (g : Good w [] m res) {a b : Nat} (hr : Reach w a b) : a ∈ res.1 → b ∈ res.1 := by
  induction hr with
  | refl a => exact id
  | step hedge _ ih => exact fun h => ih (g.closed _ h List.not_mem_nil _ hedge)

theorem mid_init : Mid w v m [] (m :: v, (w.mod m).own.map fun n => (n, m)) where
  sub := fun _ hx => hx
  stars := nofun
  closed := fun x hx hnx hxm => absurd ((List.mem_cons.mp hx).resolve_right hnx) hxm
  named := fun x hx hnx n hn _ => by
    cases (List.mem_cons.mp hx).resolve_right hnx
    exact List.mem_map.mpr ⟨(n, m), List.mem_map.mpr ⟨n, hn, rfl⟩, rfl⟩

theorem mid_step (h : Mid w v m done st) {t : Nat} (g : Good w st.1 t res) :
    Mid w v m (done ++ [some t]) (res.1, addInner st.2 res.2) where
  sub := fun x hx => g.sub x (h.sub x hx)
  stars := fun t' ht' => (List.mem_append.mp ht').elim (fun ht' => g.sub _ (h.stars t' ht')) fun ht' => by
    cases List.mem_singleton.mp ht'
    exact g.self
  closed := fun x hx hnx hxm t' ht' => by
    by_cases hxs : x ∈ st.1
    · exact g.sub _ (h.closed x hxs hnx hxm t' ht')
    · exact g.closed x hx hxs t' ht'
  named := fun x hx hnx n hn hc => mem_names_addInner.mpr <| by
    by_cases hxs : x ∈ st.1
    · exact .inl (h.named x hxs hnx n hn hc)
    · -- `x` is new, so it is not `m`, and its names count unless `default`
      have hn0 : n ≠ 0 := hc.resolve_left fun e => hxs (e ▸ h.sub m (.head _))
      exact .inr ⟨g.named x hx hxs n hn (.inr hn0), hn0⟩

theorem Mid.good (h : Mid w v m (w.mod m).stars st) : Good w v m st where
  sub := fun x hx => h.sub x (.tail _ hx)
  self := h.sub m (.head _)
  closed := fun x hx hnx t ht => by
    by_cases hxm : x = m
    · exact h.stars t (hxm ▸ ht)
    · exact h.closed x hx hnx hxm t ht
  named := h.named

/-- Calls nest one deeper per unit of fuel, and a nested call starts from a visited set grown by a module of
the world: fuel above `unvisited` is never used up. -/
theorem go_good (hwf : WF w) : ∀ (f : Nat) (v : List Nat) (m : Nat),
    unvisited w v < f → m < w.length → Good w v m (go w f v m) := by
  intro f
  induction f with
  | zero => exact fun v m h => absurd h (Nat.not_lt_zero _)
  | succ f ih =>
    intro v m hf hm
    rw [go]
    by_cases hmv : m ∈ v
    · -- visited before: of `v` nothing is promised
      rw [if_pos (List.contains_iff_mem.mpr hmv)]
      exact { sub := fun _ hx => hx, self := hmv, closed := fun _ hx hnx => absurd hx hnx,
              named := fun _ hx hnx => absurd hx hnx }
    · rw [if_neg (mt List.contains_iff_mem.mp hmv)]
      refine (foldl_inv_prefix (f := step (go w f)) (Mid w v m) _ _ mid_init ?_).good
      rintro done (_ | t) st hs h
      · exact { h with stars := fun t ht => h.stars t (by simpa using ht) }
      · have hlt : unvisited w st.1 < unvisited w v :=
          unseen_lt_of_subset (List.mem_range.mpr hm) hmv (h.sub m (.head _)) fun x hx => h.sub x (.tail _ hx)
        exact mid_step h (ih st.1 t (Nat.lt_of_lt_of_le hlt (Nat.le_of_lt_succ hf)) (hwf m t hs))

end DG.C16
