import Proofs.WalkInv
/-! The walk ends within `walkFuel` and returns what `Enq` specifies: the invariant holds initially, everything
ever pushed is one of the graph's targets, so each iteration lowers `|queue| + |targets not yet seen|`. -/
namespace DG

section
variable {g : Graph} {o : WalkOpts} {skip : Spec → Bool} {roots : List Spec}

theorem inv_init (hnd : roots.Nodup) :
    Inv g o skip roots (walkInit g o.kind roots) [] := by
  rw [walkInit]
  let st0 : WalkState := { seen := roots.foldl setInsert [], visiting := roots, prev := none }
  have hseen0 : ∀ {x}, x ∈ st0.seen ↔ x ∈ roots := mem_foldl_setInsert.trans (or_iff_right List.not_mem_nil)
  have hd : ∀ x, ¬ Done (pushAll (importTargets g o.kind) st0) x := fun x hx =>
    have ⟨h1, h2⟩ := done_pushAll.mp hx
    h2 (hseen0.mp h1)
  exact
    { vis_sub := pushAll_visiting_sub fun _ => hseen0.mpr
      vis_nodup := nodup_pushAll_visiting hnd fun _ => hseen0.mpr
      sound := fun x hx => (mem_pushAll_seen.mp hx).elim (fun h => .root (hseen0.mp h)) .imp
      roots_in := fun x hx => mem_pushAll_seen.mpr (.inl (hseen0.mpr hx))
      imps_in := fun x hx => mem_pushAll_seen.mpr (.inr hx)
      done_push := fun x hx => absurd hx (hd x), done_succ := fun x hx => absurd hx (hd x)
      prev_ok := fun k e hp => by rw [pushAll_prev] at hp; cases hp
      acc_iff := fun x e => ⟨nofun, fun h => absurd h.1 (hd x)⟩, acc_nodup := List.nodup_nil }

theorem depTargets_sub_allTargets {kind : Tables.GraphKind} {d : Dep} {t : Spec} (h : t ∈ depTargets kind d) :
    t ∈ d.allTargets :=
  (mem_depTargets (kind := .All)).mpr ((mem_depTargets.mp h).imp_right fun h => ⟨rfl, h.2⟩)

theorem allTargets_sub_targets {s t : Spec} {m : Mod} (hs : g.slot s = some (.module m)) (ht : t ∈ m.allTargets) :
    t ∈ g.targets :=
  List.mem_append_left _ (List.mem_append_left _ (List.mem_flatMap.mpr ⟨(s, .module m), mem_of_lookup_eq_some hs, ht⟩))

theorem push1_sub_targets {s t : Spec} (h : t ∈ push1 g o s) : t ∈ g.targets := by
  obtain ⟨m, td, r, hs, h1, h2⟩ := mem_push1 h
  exact allTargets_sub_targets hs (List.mem_append_right _ (by simp [h1, h2]))

theorem succs_sub_targets {s t : Spec} {e : Entry} (hy : yieldOf g o s = some e) (h : t ∈ succs o s e) :
    t ∈ g.targets := by
  have hs := yieldOf_eq_some hy
  cases e with
  | module m =>
    obtain ⟨d, hd, -, hdt⟩ := mem_depEdgeTargets.mp h
    have hdt := List.mem_flatMap.mpr ⟨d, hd, depTargets_sub_allTargets hdt⟩
    refine allTargets_sub_targets hs (List.mem_append_left _ ?_)
    simp only [walkDeps] at hdt
    split at hdt
    · exact List.mem_append_right _ hdt
    · exact List.mem_append_left _ hdt
  | err => cases h
  | redirect to =>
    cases List.mem_singleton.mp h
    exact List.mem_append_left _ (List.mem_append_right _
      (List.mem_map.mpr ⟨(s, t), mem_of_lookup_eq_some hs.2, rfl⟩))

theorem importTargets_sub_targets {kind : Tables.GraphKind} {t : Spec} (h : t ∈ importTargets g kind) :
    t ∈ g.targets := by
  obtain ⟨d, hd, ht⟩ := List.mem_flatMap.mp h
  exact List.mem_append_right _ (List.mem_flatMap.mpr ⟨d, hd, depTargets_sub_allTargets ht⟩)

theorem expandPrev_measure {st : WalkState} {acc} (h : Inv g o skip roots st acc) :
    (expandPrev o st).visiting.length + unseen g.targets (expandPrev o st).seen ≤
      st.visiting.length + unseen g.targets st.seen := by
  unfold expandPrev
  split
  · next k e hp => exact pushAll_measure _ _ fun _ => succs_sub_targets (h.prev_ok k e hp).2.1
  · exact Nat.le_refl _

end

/-- `r` is the result of a walk (`none`: the fuel ran out); `r.getD []` is how `Graph.walk` reads it. -/
structure WalkSpec (g : Graph) (o : WalkOpts) (skip : Spec → Bool) (roots : List Spec)
    (r : Option (List (Spec × Entry))) : Prop where
  ended : r.isSome
  mem_iff : ∀ x e, (x, e) ∈ r.getD [] ↔ (Enq g o skip roots x ∧ yieldOf g o x = some e)
  nodup : ((r.getD []).map (·.1)).Nodup

theorem walkLoop_spec {g : Graph} {o : WalkOpts} {skip : Spec → Bool} {roots : List Spec} :
    ∀ (fuel : Nat) (st : WalkState) (acc : List (Spec × Entry)),
      Inv g o skip roots st acc → st.visiting.length + unseen g.targets st.seen < fuel →
      WalkSpec g o skip roots (walkLoop g o skip fuel st acc) := by
  intro fuel
  induction fuel with
  | zero => intro st acc _ h; omega
  | succ fuel ih =>
    intro st acc hinv hm
    obtain ⟨h1, hp1⟩ := hinv.expandPrev
    have hm1 := expandPrev_measure hinv
    rw [walkLoop]
    rcases hv : (expandPrev o st).visiting with _ | ⟨s, rest⟩
    · exact
        { ended := rfl
          mem_iff := fun x e => by
            rw [Option.getD_some, List.mem_reverse, h1.acc_iff x e]
            exact ⟨fun ⟨hd, hy⟩ => ⟨h1.sound x hd.1, hy⟩,
              fun ⟨he, hy⟩ => ⟨⟨h1.complete hp1 hv x he, by rw [hv]; exact List.not_mem_nil⟩, hy⟩⟩
          nodup := by
            rw [Option.getD_some, List.map_reverse]
            exact (List.reverse_perm _).nodup_iff.mpr h1.acc_nodup }
    · have hpop := h1.pop hp1 hv
      rw [hv, List.length_cons] at hm1
      -- the pop takes one off the queue; what it pushes is paid for by `unseen`
      have hm3 := Nat.lt_of_le_of_lt
        (pushAll_measure (visitInfo g o s).1 { expandPrev o st with visiting := rest } fun _ => push1_sub_targets)
        (show rest.length + unseen g.targets (expandPrev o st).seen < fuel by omega)
      simp only [visit]
      rcases hy : (visitInfo g o s).2 with _ | e <;> rw [yieldOf, hy] at hpop <;> exact ih _ _ hpop hm3

theorem walk_spec (g : Graph) (o : WalkOpts) (skip : Spec → Bool) {roots : List Spec} (hnd : roots.Nodup) :
    WalkSpec g o skip roots (g.walk? o roots skip) := by
  refine walkLoop_spec _ _ _ (inv_init hnd) ?_
  -- the measure starts at `|roots| + |targets|` at most, so one unit of fuel beyond that would do; `walkFuel` has two
  have := pushAll_measure (importTargets g o.kind)
    { seen := roots.foldl setInsert [], visiting := roots, prev := none } fun _ => importTargets_sub_targets
  have := unseen_le_length g.targets (roots.foldl setInsert [])
  simp only [walkFuel, walkInit] at *
  omega

end DG
