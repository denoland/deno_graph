import DG.Build
import Proofs.OrdSet
/-!
# What the builder's primitive operations do to the state

Each primitive is described by what it leaves alone (a `_frame` equation) and by what it writes; a `load` by the five
things it can do (`Loaded`); an outcome of `try_load` by what it says about the world's answers (`Outcome.From`).  The
invariants of the builder are proved against these statements and those of `Proofs/BuildVisits.lean`, not against the
bodies of the operations.

Names in the builder modules: `P.op` — the invariant `P` is kept by (or holds after) `op`, used as `h.op …`;
`Visits.p` — visits keep `p`, used as `hv.p …`; `field_op`, `rel_op` — what `op` does to a field, or that `st` and
`op st` stand in the relation `rel` (`Same`, `Grew`), without hypothesis; `op_frame` — `op st = { st with … }`.
-/
namespace DG.Build
open DG Tables

theorem lookup_upsert {α} (l : List (Spec × α)) (k s : Spec) (v : α) :
    (upsert l k v).lookup s = if s = k then some v else l.lookup s := by
  rw [upsert, ← lookup_isSome_eq_any, apply_ite (List.lookup s), List.lookup_append,
    lookup_map_key _ fun p => by split; exact (beq_iff_eq.mp ‹_›).symm; rfl]
  by_cases hs : s = k
  · rw [hs, List.lookup_cons_self]
    cases l.lookup k <;>
      simp only [if_true, Option.isSome, Option.map, Option.or, Bool.false_eq_true, if_false, beq_self_eq_true]
  · simp only [if_neg hs, Option.map_id', List.lookup_cons, beq_false_of_ne hs, List.lookup_nil, Option.or_none, ite_self,
      Bool.false_eq_true, if_false]

theorem lookup_erase {α} (l : List (Spec × α)) (k s : Spec) :
    (erase l k).lookup s = if s = k then none else l.lookup s := by
  rw [erase, lookup_filter_key (· != k)]
  by_cases hs : s = k <;> simp [hs]

theorem keys_upsert {α} (l : List (Spec × α)) (k : Spec) (v : α) :
    (upsert l k v).map (·.1) = insEnd (l.map (·.1)) k :=
  keys_setOrAdd (·.1) (fun _ => (k, v)) (k, v) l k (fun _ _ => rfl) rfl

theorem mem_keys_upsert {α} (l : List (Spec × α)) (k x : Spec) (v : α) :
    x ∈ (upsert l k v).map (·.1) ↔ x ∈ l.map (·.1) ∨ x = k :=
  keys_upsert l k v ▸ mem_insEnd

theorem slot_setSlot (st : St) (k s : Spec) (sl : BSlot) :
    (st.setSlot k sl).slot s = if s = k then some sl else st.slot s :=
  lookup_upsert st.slots k s sl

@[simp] theorem pending_setSlot (st : St) (k : Spec) (sl : BSlot) :
    (st.setSlot k sl).pending = st.pending := rfl

theorem slot_loadPendingModule (w : World) (st : St) (lo : LoadOpts) (count : Nat) (spec s : Spec) :
    (loadPendingModule w st lo count spec).slot s = if s = spec then some (.pending lo.isAsset) else st.slot s :=
  slot_setSlot st spec s _

/-- of the queued request the invariants read the specifier only (its checksum:
`C05.queued_request_has_known_checksum`) -/
theorem pending_loadPendingModule (w : World) (st : St) (lo : LoadOpts) (count : Nat) (spec : Spec) :
    ∃ q, (loadPendingModule w st lo count spec).pending = st.pending ++ [q] ∧ q.spec = spec :=
  ⟨_, rfl, rfl⟩

theorem addDeferred_frame (st : St) (spec : Spec) (lo : LoadOpts) :
    addDeferred st spec lo = { st with deferred := (addDeferred st spec lo).deferred } := by
  unfold addDeferred; split <;> rfl

theorem dropPending_frame (st : St) (req : Spec) :
    dropPending st req = { st with slots := (dropPending st req).slots } := by
  unfold dropPending; split <;> rfl

theorem recordRedirect_frame (st : St) (req tgt : Spec) :
    recordRedirect st req tgt = { st with redirects := (recordRedirect st req tgt).redirects } := by
  unfold recordRedirect; split <;> rfl

theorem markRoot_frame (st : St) (b : Bool) (s : Spec) :
    markRoot st b s = { st with resolvedRoots := (markRoot st b s).resolvedRoots } := by
  unfold markRoot St.addResolvedRoot; split <;> (try split) <;> rfl

theorem recordChecksum_frame (w : World) (cls : Class) (f : Spec) (h : Option Nat) (st : St) :
    recordChecksum w cls f h st = { st with lockWrites := (recordChecksum w cls f h st).lockWrites } := by
  unfold recordChecksum; split <;> rfl

/-- the entry at the requested specifier as `check_specifier` leaves it -/
def unpend : Option BSlot → Option BSlot
  | some (.pending _) => none
  | x => x

theorem unpend_eq_some {x : Option BSlot} {sl : BSlot} :
    unpend x = some sl ↔ x = some sl ∧ ∀ a, sl ≠ .pending a := by
  fun_cases unpend x
  next a => exact ⟨nofun, fun h => (h.2 a (Option.some.inj h.1).symm).elim⟩
  next hx => exact ⟨fun h => ⟨h, fun a e => hx a (e ▸ h)⟩, And.left⟩

theorem slot_dropPending (st : St) (req s : Spec) :
    (dropPending st req).slot s = if s = req then unpend (st.slot req) else st.slot s := by
  fun_cases dropPending st req
  next a h => rw [St.slot, lookup_erase, h]; rfl
  next h =>
    split
    · next e => rw [e, unpend.eq_2 _ h]
    · rfl

theorem checkSpecifier_frame (st : St) (req tgt : Spec) :
    checkSpecifier st req tgt =
      { st with slots := (checkSpecifier st req tgt).slots, redirects := (checkSpecifier st req tgt).redirects } := by
  unfold checkSpecifier
  split
  · rfl
  · rw [recordRedirect_frame, dropPending_frame]

theorem slot_checkSpecifier (st : St) (req tgt s : Spec) :
    (checkSpecifier st req tgt).slot s = if s = req ∧ req ≠ tgt then unpend (st.slot req) else st.slot s := by
  by_cases h : req = tgt
  · rw [checkSpecifier, if_pos (beq_iff_eq.mpr h), if_neg fun c => c.2 h]
  · rw [checkSpecifier, if_neg (mt beq_iff_eq.mp h), recordRedirect_frame]
    simp only [h, ne_eq, not_false_eq_true, and_true]
    exact slot_dropPending st req s

theorem redirects_checkSpecifier (st : St) (req tgt : Spec) :
    (checkSpecifier st req tgt).redirects =
      if req = tgt ∨ st.redirects.any (·.1 == req) then st.redirects else st.redirects ++ [(req, tgt)] := by
  by_cases h : req = tgt
  · rw [checkSpecifier, if_pos (beq_iff_eq.mpr h), if_pos (.inl h)]
  · rw [checkSpecifier, if_neg (mt beq_iff_eq.mp h), recordRedirect, dropPending_frame]
    simp only [h, false_or]
    exact apply_ite St.redirects ..

theorem forall_redirects_checkSpecifier {P : Spec × Spec → Prop} (st : St) (req tgt : Spec)
    (h : ∀ p ∈ st.redirects, P p) (hn : req ≠ tgt → P (req, tgt)) :
    ∀ p ∈ (checkSpecifier st req tgt).redirects, P p := by
  rw [redirects_checkSpecifier]
  split
  · exact h
  · rename_i hc
    exact List.forall_mem_append.mpr ⟨h, List.forall_mem_singleton.mpr (hn fun e => hc (Or.inl e))⟩

theorem lookup_redirects_checkSpecifier (st : St) (req tgt x : Spec) :
    (checkSpecifier st req tgt).redirects.lookup x =
      (st.redirects.lookup x).or (if x = req ∧ req ≠ tgt then some tgt else none) := by
  rw [redirects_checkSpecifier]
  split
  · rename_i hc
    split
    · rename_i hx
      have : (st.redirects.lookup x).isSome = true := by
        rw [hx.1, lookup_isSome_eq_any]; exact hc.resolve_left hx.2
      cases h : st.redirects.lookup x with
      | none => rw [h] at this; cases this
      | some y => rfl
    · simp
  · rename_i hc
    rw [List.lookup_append, List.lookup_singleton]
    have : req ≠ tgt := fun h => hc (Or.inl h)
    by_cases hx : x = req <;> simp [hx, this]

/-- states that differ at most in the loader-call log, the lock writes and the resolved roots: what the bookkeeping
steps of a request write (`logRequest`, `recordChecksum`, `markRoot`).  The builder reads the last two, none of the
invariants does. -/
structure Same (st st' : St) : Prop where
  slots : st'.slots = st.slots
  redirects : st'.redirects = st.redirects
  pending : st'.pending = st.pending
  dyn : st'.dyn = st.dyn
  deferred : st'.deferred = st.deferred
  inDyn : st'.inDyn = st.inDyn

theorem Same.frame {st st' : St} (h : Same st st') :
    st' = { st with resolvedRoots := st'.resolvedRoots, log := st'.log, lockWrites := st'.lockWrites } := by
  obtain ⟨h1, h2, h3, h4, h5, h6⟩ := h
  cases st'
  simp only at h1 h2 h3 h4 h5 h6
  rw [h1, h2, h3, h4, h5, h6]

theorem Same.trans {a b c : St} (h1 : Same a b) (h2 : Same b c) : Same a c :=
  ⟨h2.slots.trans h1.slots, h2.redirects.trans h1.redirects, h2.pending.trans h1.pending,
   h2.dyn.trans h1.dyn, h2.deferred.trans h1.deferred, h2.inDyn.trans h1.inDyn⟩

/-- the record `logCall` appends for the request `r` -/
def Req.call (r : Req) (reload : Bool) : LoadCall :=
  { spec := r.spec, ensureCached := r.isAsset, reload := reload, checksum := r.checksum, inDyn := r.inDyn }

theorem logRequest_eq (w : World) (o : Opts) (r : Req) (st : St) :
    logRequest w o r st =
      { st with log := st.log ++ r.call false :: if (tryLoad' w o r).2 then [r.call true] else [] } := by
  unfold logRequest logCall
  split
  · exact congrArg (fun l => { st with log := l }) (List.append_assoc ..)
  · rfl

theorem same_logRequest (w : World) (o : Opts) (r : Req) (st : St) : Same st (logRequest w o r st) := by
  rw [logRequest_eq]; exact ⟨rfl, rfl, rfl, rfl, rfl, rfl⟩

theorem same_markRoot (st : St) (b : Bool) (s : Spec) : Same st (markRoot st b s) := by
  rw [markRoot_frame]; exact ⟨rfl, rfl, rfl, rfl, rfl, rfl⟩

theorem same_recordChecksum (w : World) (cls : Class) (f : Spec) (h : Option Nat) (st : St) :
    Same st (recordChecksum w cls f h st) := by
  rw [recordChecksum_frame]; exact ⟨rfl, rfl, rfl, rfl, rfl, rfl⟩

theorem log_markRoot (st : St) (b : Bool) (s : Spec) : (markRoot st b s).log = st.log := by
  rw [markRoot_frame]

theorem log_recordChecksum (w : World) (cls : Class) (f : Spec) (h : Option Nat) (st : St) :
    (recordChecksum w cls f h st).log = st.log := by
  rw [recordChecksum_frame]

theorem Same.dropPending {a b : St} (h : Same a b) (req : Spec) : Same (dropPending a req) (dropPending b req) := by
  rw [h.frame]
  unfold Build.dropPending St.slot
  simp only
  split <;> exact ⟨rfl, rfl, rfl, rfl, rfl, rfl⟩

theorem Same.recordRedirect {a b : St} (h : Same a b) (req tgt : Spec) :
    Same (recordRedirect a req tgt) (recordRedirect b req tgt) := by
  rw [h.frame]
  unfold Build.recordRedirect
  simp only
  split <;> exact ⟨rfl, rfl, rfl, rfl, rfl, rfl⟩

theorem Same.checkSpecifier {a b : St} (h : Same a b) (req tgt : Spec) :
    Same (checkSpecifier a req tgt) (checkSpecifier b req tgt) := by
  unfold Build.checkSpecifier
  split
  · exact h
  · exact (h.dropPending req).recordRedirect req tgt

theorem loadDecision_spec (w : World) (o : Opts) (lo : LoadOpts) (st : St) (spec : Spec) :
    match loadDecision w o lo st spec with
    | .reject _ => True
    | .skip => (st.slot spec).isSome = true
    | .defer => st.slot spec = some (.pending true)
    | .proceed =>
      st.slot spec = none ∨ st.slot spec = some (.module (.external true)) ∧ lo.isAsset = false := by
  fun_cases loadDecision w o lo st spec
  next => trivial
  next sl hs ext h =>
    rw [Bool.and_eq_true, Bool.not_eq_true'] at h
    have h1 := h.1
    unfold ext at h1
    split at h1
    · exact .inr ⟨hs, h.2⟩
    · cases h1
  next sl hs _ _ pend h =>
    have h1 := (Bool.and_eq_true _ _ ▸ h).1
    unfold pend at h1
    split at h1
    · exact hs
    · cases h1
  next sl hs _ _ _ _ => exact hs ▸ rfl
  next hs => exact .inl hs

theorem resolveForLoad_cases (st : St) (s : Spec) :
    st.resolveForLoad s = s ∨
      (st.redirects.lookup s).isSome = true ∧ ∃ p ∈ st.redirects, p.2 = st.resolveForLoad s := by
  unfold St.resolveForLoad
  generalize st.redirects.length + 1 = n, [s] = seen
  fun_induction St.resolveForLoadGo st n seen s with
  | case4 n seen cur _ nx hl _ ih =>  -- the walk takes the hop `cur → nx`
    exact .inr ⟨by rw [hl]; rfl, ih.elim (fun e => ⟨(cur, nx), mem_of_lookup_eq_some hl, e.symm⟩) And.right⟩
  | _ => exact .inl rfl

/-- when a load that ends at `sp` queues a request: `sp` is new, or was loaded as an asset only (an `external true`
stand-in) and its content is needed now -/
def NeedsRequest (lo : LoadOpts) (st : St) (sp : Spec) : Prop :=
  st.slot sp = none ∨ st.slot sp = some (.module (.external true)) ∧ lo.isAsset = false

/-- the five things a `load` can do (the last argument is the state afterwards), each with what it tells about the
entry at `sp`, where the walk over the known redirects ends -/
inductive Loaded (w : World) (count : Nat) (lo : LoadOpts) (st : St) (sp : Spec) : St → Prop
  | reject (e : BErr) : Loaded w count lo st sp (st.setSlot sp (.err e))
  | skip : (st.slot sp).isSome = true → Loaded w count lo st sp st
  | defer : st.slot sp = some (.pending true) → Loaded w count lo st sp (addDeferred st sp lo)
  | node : Loaded w count lo st sp (st.setSlot sp (.module .node))
  | queue : NeedsRequest lo st sp → Loaded w count lo st sp (loadPendingModule w st lo count sp)

theorem load_cases (w : World) (o : Opts) (count : Nat) (lo : LoadOpts) (st : St) :
    Loaded w count lo st (st.resolveForLoad lo.spec) (load w o count lo st) := by
  have h := loadDecision_spec w o lo st (st.resolveForLoad lo.spec)
  unfold load
  simp only
  split <;> rename_i hd <;> rw [hd] at h
  · exact .reject _
  · exact .skip h
  · exact .defer h
  · split
    · exact .node
    · exact .queue h

theorem load_frame (w : World) (o : Opts) (count : Nat) (lo : LoadOpts) (st : St) :
    load w o count lo st =
      { st with slots := (load w o count lo st).slots, pending := (load w o count lo st).pending,
                deferred := (load w o count lo st).deferred } := by
  have hl := load_cases w o count lo st
  generalize load w o count lo st = st' at hl ⊢
  cases hl with
  | defer => rw [addDeferred_frame]
  | _ => rfl

theorem answer_cases (w : World) (s : Spec) (c : Option Nat) (b : Bool) :
    w.answer s c b = w.respFor s b ∨ w.answer s c b = .checksumError ∧ ∃ f, w.respFor s b = .module f := by
  fun_cases World.answer w s c b
  next f h c _ => exact .inl h.symm
  next f h c _ => exact .inr ⟨rfl, f, h⟩
  next f h => exact .inl h.symm
  next => exact .inl rfl

/-- what an outcome of `try_load` for the request `r` says about the world's responses -/
def Outcome.From (w : World) (r : Req) : Outcome → Prop
  | .redirect to => to ≠ r.spec ∧ r.count < w.maxRedirects ∧ w.respFor r.spec false = .redirect to
  | .module f cls => (∀ k ref, cls ≠ .err k ref) ∧ ∃ b, w.respFor r.spec b = .module f
  | .external spec a => (a = true → r.isAsset = true) ∧ (spec = r.spec ∨ w.respFor r.spec false = .external spec)
  | .err e => e.spec = r.spec ∨ ∃ b, w.respFor r.spec b = .module e.spec

theorem moduleOutcome_from (w : World) (o : Opts) (r : Req) (f : Spec) (b : Bool) (h : w.respFor r.spec b = .module f) :
    (moduleOutcome w o r f).From w r := by
  fun_cases moduleOutcome w o r f
  next => exact Or.inr ⟨b, h⟩
  next hc => exact ⟨fun k ref e => hc k ref e, b, h⟩

theorem tryLoad_from (w : World) (o : Opts) (r : Req) : (tryLoad w o r).From w r := by
  have resp : ∀ {b x}, w.answer r.spec r.checksum b = x → x ≠ .checksumError → w.respFor r.spec b = x := fun h hx =>
    (answer_cases w r.spec r.checksum _).elim (fun e => e ▸ h) fun e => absurd (h ▸ e.1) hx
  have asset : ∀ {out : Outcome}, out.From w r →
      (if r.isAsset = true then Outcome.external r.spec true else out).From w r := fun ho => by
    split
    · exact ⟨fun _ => ‹_›, Or.inl rfl⟩
    · exact ho
  unfold tryLoad
  fun_cases tryLoad' w o r
  next handleRedirect to ha =>
    show (handleRedirect to).From w r
    unfold handleRedirect
    split
    · exact Or.inl rfl
    · split
      · exact Or.inl rfl
      · next hc =>
        simp only [Bool.or_eq_true, decide_eq_true_eq, not_or, Nat.not_le, beq_iff_eq] at hc
        exact ⟨hc.2, hc.1, resp ha nofun⟩
  next => exact Or.inl rfl
  next => exact Or.inl rfl
  next f ha => exact asset ⟨nofun, Or.inr (resp ha nofun)⟩
  next f ha => exact asset (moduleOutcome_from w o r f false (resp ha nofun))
  next f hb => exact asset (moduleOutcome_from w o r f true (resp hb nofun))
  next => exact asset (Or.inl rfl)
  next => exact Or.inl rfl

theorem tryLoad'_retry (w : World) (o : Opts) (r : Req) :
    (tryLoad' w o r).2 = true → w.answer r.spec r.checksum false = .checksumError := by
  fun_cases tryLoad' w o r <;> intro h <;> first | assumption | cases h

end DG.Build
