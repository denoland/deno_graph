import DG.Deps
import Proofs.OrdSet
/-! The dependency table changes only through `upd`, and the traversal is a nest of folds.  So an invariant of the
table is shown by one traversal principle per phase (`preFill_ind`, `fill_ind`), and an invariant of single entries
against what a recorded import does to the four fields the invariants read (`Fields`), never against the bodies of
the stages. -/
namespace DG.Deps
open DG.MI

theorem upd_forall {P : Dep → Prop} {l : List Dep} {k : String} {f : Dep → Dep}
    (hf : ∀ d, P d → P (f d)) (hnew : P { text := k }) (hl : ∀ d ∈ l, P d) : ∀ d ∈ upd l k f, P d := by
  fun_cases upd l k f
  · refine List.forall_mem_map.2 fun d hd => ?_
    split
    · exact hf d (hl d hd)
    · exact hl d hd
  · exact List.forall_mem_append.2 ⟨hl, List.forall_mem_singleton.2 (hf _ hnew)⟩

theorem keys_upd {l : List Dep} {k : String} {f : Dep → Dep} (hf : ∀ d, (f d).text = d.text) :
    (upd l k f).map (·.text) = insEnd (l.map (·.text)) k :=
  keys_setOrAdd (·.text) f _ l k (fun d h => (hf d).trans h) (hf _)

theorem nodup_upd {l : List Dep} {k : String} {f : Dep → Dep} (hf : ∀ d, (f d).text = d.text)
    (h : (l.map (·.text)).Nodup) : ((upd l k f).map (·.text)).Nodup :=
  keys_upd hf ▸ nodup_insEnd h k

theorem preFill_ind (e : Env) (mi : ModuleInfo) (Q : List Dep → Prop) (h0 : Q [])
    (hT : e.includeTypes = true → ∀ l t k, k.isCode = false → Q l → Q (upd l t (addTypeImport e t k)))
    (hJ : ∀ l t, Q l → Q (upd l t (addJsx e mi t))) : Q (preFill e mi).deps := by
  have h1 : ∀ o : Out, Q o.deps → Q (phaseSelfTypes e mi o).deps := fun o h => by
    fun_cases phaseSelfTypes e mi o
    · next he =>
      refine List.foldlRecOn (motive := fun o : Out => Q o.deps) _ _ ?_ fun o h r _ => ?_
      · split <;> exact h
      · fun_cases stepTsRef e o r
        · exact hT he _ _ _ rfl h
        · exact h
        · exact h
        · exact hT he _ _ _ rfl h
    · exact h
  have h2 : ∀ o : Out, Q o.deps → Q (stepJsx e mi o).deps := fun o h => by
    fun_cases stepJsx e mi o
    · exact h
    · exact h
    · exact hJ _ _ h
  have h3 : ∀ o : Out, Q o.deps → Q (phaseJsDoc e mi o).deps := fun o h => by
    fun_cases phaseJsDoc e mi o
    · next he => exact List.foldlRecOn (motive := fun o : Out => Q o.deps) _ _ h fun o h j _ => hT he o.deps j.spec.text .jsDoc rfl h
    · exact h
  have h4 : ∀ o : Out, Q o.deps → Q (phaseHeader e o).deps := fun o h => by
    fun_cases phaseHeader e o <;> exact h
  exact h4 _ (h3 _ (h2 _ (h1 _ h0)))

theorem preFill_typesDep (e : Env) (he : e.includeTypes = false) (mi : ModuleInfo) : (preFill e mi).typesDep = none := by
  simp only [preFill, phaseHeader, phaseJsDoc, phaseSelfTypes, he, Bool.false_eq_true, if_false, Bool.false_and]
  fun_cases stepJsx e mi _ <;> rfl

/-- the kinds of import a descriptor can stand for (`descImports_kinds`) -/
def DescKind (e : Env) (k : IKind) : Prop :=
  k.isCode = true ∨ ((k = .tsType ∨ k = .tsAugment) ∧ e.includeTypes = true)

theorem descImports_kinds {e : Env} {desc : MI.Dep} {imps : List RawImp} {ts : Option SpecR} :
    descImports e desc = some (imps, ts) → ∀ i ∈ imps, DescKind e i.kind := by
  fun_cases descImports e desc with
  | case1 | case3 | case5 | case10 => nofun  -- skipped: type-only without types, or a dynamic import of no literal
  | case2 _ _ ht =>  -- module augmentation, types analysed
    rintro ⟨⟩
    exact List.forall_mem_singleton.2 (.inr ⟨.inr rfl, by simpa using ht⟩)
  | case4 _ _ ht | case6 _ _ ht =>  -- `import type`, `export type`, types analysed
    rintro ⟨⟩
    exact List.forall_mem_singleton.2 (.inr ⟨.inl rfl, by simpa using ht⟩)
  | case7 | case8 =>  -- any other static import or export
    rintro ⟨⟩
    exact List.forall_mem_singleton.2 (.inl rfl)
  | case9 _ _ _ kind =>  -- dynamic import of a string literal: `es`, `esSource` or `require`
    rintro ⟨⟩
    exact List.forall_mem_singleton.2 (.inl (by unfold kind; split <;> rfl))

theorem fill_ind (e : Env) (Q : List Dep → Prop)
    (hI : ∀ l ts i, DescKind e i.kind → Q l → Q (upd l i.text (applyImp e ts i)))
    (hR : ∀ l, Q l → Q (l.filterMap retainOne))
    (deps0 : List Dep) (descs : List MI.Dep) (h0 : Q deps0) : Q (fill e deps0 descs) := by
  unfold fill retainDeps
  have : Q (descs.foldl (stepDesc e) deps0) := by
    refine List.foldlRecOn _ _ h0 fun l h desc _ => ?_
    unfold stepDesc
    split
    · exact h
    · next imps ts hd => exact List.foldlRecOn _ _ h fun l h i hi => hI l ts i (descImports_kinds hd i hi) h
  split
  · exact this
  · exact hR _ this

theorem R.res_ne_none (r : R) : r.res ≠ .none := by cases r <;> simp [R.res]

theorem Res.isNone_iff {r : Res} : r.isNone = true ↔ r = .none := by cases r <;> simp [Res.isNone]

theorem IKind.not_code_of_typeOnly {k : IKind} (h : (k == .tsType || k == .tsAugment) = true) : k.isCode = false := by
  rcases Bool.or_eq_true .. |>.mp h with h | h <;> rw [eq_of_beq h] <;> rfl

/-- `text` is the key of the table, the other three are what `SW` and `Pre` speak of -/
structure Fields (d : Dep) (text : String) (code : Res) (dyn : Bool) (imports : List Imp) : Prop where
  text : d.text = text
  code : d.code = code
  dyn : d.dyn = dyn
  imports : d.imports = imports

theorem fields_iff {d : Dep} {t : String} {c : Res} {y : Bool} {l : List Imp} :
    Fields d t c y l ↔ d.text = t ∧ d.code = c ∧ d.dyn = y ∧ d.imports = l :=
  ⟨fun h => ⟨h.text, h.code, h.dyn, h.imports⟩, fun h => ⟨h.1, h.2.1, h.2.2.1, h.2.2.2⟩⟩

theorem jsxTypes_fields (e : Env) (mi : ModuleInfo) (t : String) (d : Dep) :
    Fields (jsxTypes e mi t d) d.text d.code d.dyn d.imports := by
  fun_cases jsxTypes e mi t d <;> exact ⟨rfl, rfl, rfl, rfl⟩

theorem jsxTypes_imports (e : Env) (mi : ModuleInfo) (t : String) (d : Dep) : (jsxTypes e mi t d).imports = d.imports :=
  (jsxTypes_fields e mi t d).imports

theorem addJsx_fields (e : Env) (mi : ModuleInfo) (t : String) (d : Dep) :
    Fields (addJsx e mi t d) d.text (if d.code.isNone then (e.resC t).res else d.code) d.dyn
      (d.imports ++ [{ kind := .jsxSrc, dyn := false }]) := by
  have f := jsxTypes_fields e mi t { d with code := if d.code.isNone then (e.resC t).res else d.code }
  unfold addJsx
  exact ⟨f.text, f.code, f.dyn, congrArg (· ++ _) f.imports⟩

theorem stageDenoTypes_fields (e : Env) (ts : Option SpecR) (d : Dep) :
    Fields (stageDenoTypes e ts d) d.text d.code d.dyn d.imports := by
  fun_cases stageDenoTypes e ts d <;> exact ⟨rfl, rfl, rfl, rfl⟩

/-- each stage decides fields of its own, so of the five only `stageSide` and `pushImp` show in these four -/
theorem applyImp_fields (e : Env) (ts : Option SpecR) (i : RawImp) (d : Dep) :
    Fields (applyImp e ts i d) d.text (stageSide e i d).code (stageSide e i d).dyn
      (d.imports ++ [{ kind := i.kind, dyn := i.dyn }]) :=
  fields_iff.2 <| by
    simp only [applyImp, pushImp, stageFallback, stageSide, fun x => fields_iff.1 (stageDenoTypes_fields e ts x), stageAttr,
      apply_ite Dep.text, apply_ite Dep.code, apply_ite Dep.dyn, apply_ite Dep.imports, ite_self, and_self]

/-- what `stageSide` makes of the code side `c` and the flag `y` of the entry `d` -/
inductive SideCase (e : Env) (i : RawImp) (d : Dep) (c : Res) (y : Bool) : Prop
  | skip (hk : i.kind.isCode = false ∨ e.isDeclaration = true) (code : c = d.code) (dyn : y = d.dyn)
  | first (hnd : e.isDeclaration = false) (hn : d.code = .none) (code : c = (e.resC i.text).res) (dyn : y = i.dyn)
  | further (hnd : e.isDeclaration = false) (hn : d.code ≠ .none) (code : c = d.code) (dyn : y = (d.dyn && i.dyn))

theorem stageSide_cases (e : Env) (i : RawImp) (d : Dep) :
    SideCase e i d (stageSide e i d).code (stageSide e i d).dyn := by
  fun_cases stageSide e i d
  · next hk _ => exact .skip (.inl (IKind.not_code_of_typeOnly hk)) rfl rfl
  · next hk _ => exact .skip (.inl (IKind.not_code_of_typeOnly hk)) rfl rfl
  · next hd hc => exact .first (by simpa using hd) (Res.isNone_iff.1 hc) rfl rfl
  · next hd hc => exact .further (by simpa using hd) (mt Res.isNone_iff.2 hc) rfl rfl
  · next hd => exact .skip (.inr (by simpa using hd)) rfl rfl

theorem retainOne_some {d d' : Dep} (h : retainOne d = some d') :
    d' = { d with imports := d'.imports } ∧ ∀ i ∈ d'.imports, i ∈ d.imports := by
  revert h
  fun_cases retainOne d <;> intro h <;> cases h
  · exact ⟨rfl, fun _ => id⟩
  · exact ⟨rfl, fun _ hi => (List.mem_filter.mp hi).1⟩

/-- two predicates, since before the descriptors a stronger one may hold (`Pre`, then `SW`) -/
theorem analyse_forall (e : Env) (mi : ModuleInfo) {P0 P : Dep → Prop} (hnew : ∀ k, P0 { text := k })
    (hT : e.includeTypes = true → ∀ t k, k.isCode = false → ∀ d, P0 d → P0 (addTypeImport e t k d))
    (hJ : ∀ t d, P0 d → P0 (addJsx e mi t d)) (h01 : ∀ d, P0 d → P d)
    (hI : ∀ ts i, DescKind e i.kind → ∀ d, P d → P (applyImp e ts i d))
    (hR : ∀ d is, P d → (∀ i ∈ is, i ∈ d.imports) → P { d with imports := is }) :
    ∀ d ∈ (analyse e mi).deps, P d := by
  refine fill_ind e (fun l => ∀ d ∈ l, P d) (fun _ ts i hk => upd_forall (hI ts i hk) (h01 _ (hnew _)))
    (fun l h d' hd' => ?_) _ _ fun d hd => h01 d <|
      preFill_ind e mi (fun l => ∀ d ∈ l, P0 d) (fun _ h => nomatch h)
        (fun he _ t k hk => upd_forall (hT he t k hk) (hnew t)) (fun _ t => upd_forall (hJ t) (hnew _)) d hd
  obtain ⟨d, hd, hr⟩ := List.mem_filterMap.mp hd'
  obtain ⟨hf, hs⟩ := retainOne_some hr
  rw [hf]
  exact hR d _ (h d hd) hs

/-- "static wins": `allDyn` is the claim, `noCode` and `decl` are what makes it inductive -/
structure SW (e : Env) (d : Dep) : Prop where
  allDyn : d.dyn = true → ∀ i ∈ d.imports, i.kind.isCode = true → i.dyn = true
  noCode : d.code = .none → e.isDeclaration = false → ∀ i ∈ d.imports, i.kind.isCode = false
  decl : e.isDeclaration = true → d.dyn = false

theorem sw_snoc {e : Env} {d : Dep} {t : String} {c : Res} {y : Bool} {l : List Imp} {j : Imp} (f : Fields d t c y (l ++ [j]))
    (allDyn : y = true → (∀ x ∈ l, x.kind.isCode = true → x.dyn = true) ∧ (j.kind.isCode = true → j.dyn = true))
    (noCode : c = .none → e.isDeclaration = false → (∀ x ∈ l, x.kind.isCode = false) ∧ j.kind.isCode = false)
    (decl : e.isDeclaration = true → y = false) : SW e d := by
  constructor <;> simp only [f.code, f.dyn, f.imports, List.forall_mem_append, List.forall_mem_singleton] <;> assumption

theorem sw_addTypeImport (e : Env) (t : String) (k : IKind) (hk : k.isCode = false) (d : Dep) (h : SW e d) :
    SW e (addTypeImport e t k d) :=
  sw_snoc ⟨rfl, rfl, rfl, rfl⟩ (fun hy => ⟨h.allDyn hy, fun hj => absurd hj (by simp [hk])⟩)
    (fun hn hnd => ⟨h.noCode hn hnd, hk⟩) h.decl

theorem sw_applyImp (e : Env) (ts : Option SpecR) (i : RawImp) (d : Dep) (h : SW e d) : SW e (applyImp e ts i d) := by
  have f := applyImp_fields e ts i d
  cases stageSide_cases e i d with
  | skip hk c y =>
    rw [c, y] at f
    refine sw_snoc f (fun hy => ⟨h.allDyn hy, fun hj => ?_⟩)
      (fun hn hnd => ⟨h.noCode hn hnd, hk.resolve_right (by simp [hnd])⟩) h.decl
    rcases hk with hk | hk
    · exact absurd hj (by simp [hk])
    · exact absurd hy (by simp [h.decl hk])
  | first hnd hn c y =>
    rw [c, y] at f
    exact sw_snoc f (fun hy => ⟨fun x hx hxc => absurd hxc (by simp [h.noCode hn hnd x hx]), fun _ => hy⟩)
      (fun hr => absurd hr (R.res_ne_none _)) (fun hdecl => absurd hdecl (by simp [hnd]))
  | further hnd hn c y =>  -- static wins
    rw [c, y] at f
    exact sw_snoc f
      (fun hy => ⟨h.allDyn (Bool.and_eq_true .. |>.mp hy).1, fun _ => (Bool.and_eq_true .. |>.mp hy).2⟩)
      (fun hr => absurd hr hn) (fun hdecl => absurd hdecl (by simp [hnd]))

/-- holds before the descriptors are visited (`preFill`): nothing is dynamic yet -/
structure Pre (e : Env) (d : Dep) : Prop where
  static : d.dyn = false
  noCode : d.code = .none → ∀ i ∈ d.imports, i.kind.isCode = false

theorem Pre.sw {e : Env} {d : Dep} (h : Pre e d) : SW e d :=
  ⟨fun hd => absurd hd (by simp [h.static]), fun hc _ => h.noCode hc, fun _ => h.static⟩

theorem pre_new (e : Env) (k : String) : Pre e { text := k } := ⟨rfl, fun _ i hi => by simp at hi⟩

theorem pre_addTypeImport (e : Env) (t : String) (k : IKind) (hk : k.isCode = false) (d : Dep) (h : Pre e d) :
    Pre e (addTypeImport e t k d) :=
  ⟨h.static, fun hc => List.forall_mem_append.2 ⟨h.noCode hc, List.forall_mem_singleton.2 hk⟩⟩

theorem pre_addJsx (e : Env) (mi : ModuleInfo) (t : String) (d : Dep) (h : Pre e d) : Pre e (addJsx e mi t d) := by
  have f := addJsx_fields e mi t d
  refine ⟨f.dyn.trans h.static, fun hc => ?_⟩
  rw [f.code] at hc
  split at hc
  · exact absurd hc (R.res_ne_none _)
  · next hn => exact absurd (Res.isNone_iff.mpr hc) hn

/-- "code only": no type side and no type-only import, as in an analysis without types -/
structure CO (d : Dep) : Prop where
  type : d.type = .none
  denoTypes : d.denoTypes = none
  allCode : ∀ i ∈ d.imports, i.kind.isCode = true

theorem co_new (k : String) : CO { text := k } := ⟨rfl, rfl, fun _ hi => nomatch hi⟩

theorem co_addJsx (e : Env) (he : e.includeTypes = false) (mi : ModuleInfo) (t : String) (d : Dep) (h : CO d) :
    CO (addJsx e mi t d) := by
  have hj : ∀ x, jsxTypes e mi t x = x := fun x => by simp [jsxTypes, he]
  simp only [addJsx, hj]
  exact ⟨h.type, h.denoTypes, List.forall_mem_append.2 ⟨h.allCode, List.forall_mem_singleton.2 rfl⟩⟩

theorem co_applyImp (e : Env) (he : e.includeTypes = false) (ts : Option SpecR) (i : RawImp) (hi : i.kind.isCode = true)
    (d : Dep) (h : CO d) : CO (applyImp e ts i d) := by
  have hk : (i.kind == .tsType || i.kind == .tsAugment) = false :=
    Bool.eq_false_iff.2 fun hk => by simp [IKind.not_code_of_typeOnly hk] at hi
  have hd : ∀ x, stageDenoTypes e ts x = x := fun x => by
    cases ts <;> simp only [stageDenoTypes, he, Bool.false_and, Bool.false_eq_true, if_false]
  -- without types no stage touches the type side
  have : (applyImp e ts i d).type = d.type ∧ (applyImp e ts i d).denoTypes = d.denoTypes := by
    simp only [applyImp, pushImp, stageFallback, stageSide, hd, stageAttr, he, hk,
      Bool.false_and, Bool.false_eq_true, if_false, apply_ite Dep.type, apply_ite Dep.denoTypes, ite_self, and_self]
  refine ⟨this.1.trans h.type, this.2.trans h.denoTypes, ?_⟩
  rw [(applyImp_fields e ts i d).imports]
  exact List.forall_mem_append.2 ⟨h.allCode, List.forall_mem_singleton.2 hi⟩

end DG.Deps
