import DG.Resolve
/-! `resolve` follows the redirect entries of specifiers that have no entry of their own (`redirectEff`).  Along a
chain `HopsTo` that ends, the loop takes the chain's hops and no other step: no hop is mistaken for a cycle, and
the cap can only fire at the end.  The loop sees its redirect function only on the specifiers it passes. -/
namespace DG

theorem Graph.redirectEff_eq (g : Graph) (s : Spec) :
    g.redirectEff s = if (g.slot s).isSome then none else g.redirect s := by
  simp [Graph.redirectEff, effRedirect, Tables.resolveStopsAtEntry]

theorem Graph.redirectEff_eq_some {g : Graph} {s t : Spec} :
    g.redirectEff s = some t ↔ g.slot s = none ∧ g.redirect s = some t := by
  rw [Graph.redirectEff_eq]
  cases g.slot s <;> simp

theorem Graph.redirectEff_eq_none {g : Graph} {s : Spec} :
    g.redirectEff s = none ↔ g.slot s ≠ none ∨ g.redirect s = none := by
  rw [Graph.redirectEff_eq]
  cases g.slot s <;> simp

theorem Graph.mem_specifiers {g : Graph} {x : SpecEntry} :
    x ∈ g.specifiers ↔ (∃ k sl, (k, sl) ∈ g.slots ∧ toResult k k sl = some x) ∨
      ∃ k t, (k, t) ∈ g.redirects ∧ ∃ sl, g.slot (g.resolve t) = some sl ∧
        toResult k (g.resolve t) sl = some x := by
  simp only [Graph.specifiers, List.mem_append, List.mem_filterMap, Prod.exists]
  refine or_congr Iff.rfl (exists_congr fun k => exists_congr fun t => and_congr_right fun _ => ?_)
  cases g.slot (g.resolve t) <;> simp

/-- following `redir` from `s` takes exactly `k` hops and ends at `e`, which has no redirect entry -/
inductive HopsTo (redir : Spec → Option Spec) : Nat → Spec → Spec → Prop where
  | done {s} : redir s = none → HopsTo redir 0 s s
  | hop {k s t e} : redir s = some t → HopsTo redir k t e → HopsTo redir (k + 1) s e

theorem HopsTo.det {redir : Spec → Option Spec} {k k' s e e'}
    (h : HopsTo redir k s e) (h' : HopsTo redir k' s e') : k = k' ∧ e = e' := by
  induction h generalizing k' e' with
  | done hn =>
    cases h' with
    | done _ => exact ⟨rfl, rfl⟩
    | hop hs _ => cases hn.symm.trans hs
  | hop hs _ ih =>
    cases h' with
    | done hn => cases hn.symm.trans hs
    | hop hs' ht' =>
      cases hs.symm.trans hs'
      exact (ih ht').imp_left (congrArg (· + 1))

theorem HopsTo.end_no_redirect {redir : Spec → Option Spec} {k s e}
    (h : HopsTo redir k s e) : redir e = none := by
  induction h with
  | done hn => exact hn
  | hop _ _ ih => exact ih

theorem HopsTo.ne {redir : Spec → Option Spec} {j k x y e} (hx : HopsTo redir j x e)
    (hy : HopsTo redir k y e) (hjk : j ≠ k) : x ≠ y :=
  fun h => hjk (hx.det (h ▸ hy)).1

/-- Nothing in `seen` is strictly nearer to the end than `cur`, so no hop of the chain is taken for a cycle. -/
theorem resolveLoop_chain {redir : Spec → Option Spec} {cap : Option Nat} {k : Nat} {cur e : Spec}
    (h : HopsTo redir k cur e) :
    ∀ {fuel : Nat} {seen : List Spec}, (∀ j x, j < k → HopsTo redir j x e → x ∉ seen) → k ≤ fuel →
      (∀ max, cap = some max → seen.length + k ≤ max) → resolveLoop redir cap fuel seen cur = e := by
  induction h with
  | done hn => intro fuel _ _ _ _; cases fuel <;> simp [resolveLoop, hn]
  | @hop k s t e hs ht ih =>
    intro fuel seen hseen hfuel hcap
    cases fuel with
    | zero => cases hfuel
    | succ f =>
      have hrec : resolveLoop redir cap f (t :: seen) t = e :=
        ih (fun j x hj hx hm => (List.mem_cons.mp hm).elim (hx.ne ht (Nat.ne_of_lt hj))
            (hseen j x (Nat.lt_succ_of_lt hj) hx))
          (Nat.le_of_succ_le_succ hfuel)
          (fun m hm => by rw [List.length_cons, Nat.add_right_comm]; exact hcap m hm)
      rw [resolveLoop]
      simp only [hs, if_neg (hseen k t (Nat.lt_succ_self k) ht)]
      cases cap with
      | none => exact hrec
      | some max =>
        simp only
        split
        · next hge =>
          -- the cap fires only at the end of the chain: `|seen| + (k + 1) ≤ max ≤ |seen| + 1`
          have hk : k + 1 ≤ 1 := Nat.le_of_add_le_add_left (Nat.le_trans (hcap max rfl) hge)
          cases Nat.le_zero.1 (Nat.le_of_succ_le_succ hk)
          cases ht
          rfl
        · exact hrec

theorem resolveWith_chain {redir : Spec → Option Spec} {cap : Option Nat} {fuel k : Nat} {s e : Spec}
    (h : HopsTo redir k s e) (hfuel : k ≤ fuel + 1) (hcap : ∀ max, cap = some max → k + 1 ≤ max) :
    resolveWith redir cap fuel s = e := by
  cases h with
  | done hn => simp [resolveWith, hn]
  | @hop k _ t _ hs ht =>
    have hne : t ≠ s := ht.ne (.hop hs ht) (Nat.ne_of_lt (Nat.lt_succ_self k))
    simp only [resolveWith, hs, setInsert, List.mem_singleton, if_neg hne]
    -- the loop starts with `seen = [t, s]`: two of the `(k + 1) + 1` the cap allows are used up
    refine resolveLoop_chain ht (fun j x hj hx => ?_) (Nat.le_of_succ_le_succ hfuel) fun m hm =>
      Nat.add_comm 2 k ▸ hcap m hm
    simp only [List.mem_cons, List.not_mem_nil, or_false, not_or]
    exact ⟨hx.ne ht (Nat.ne_of_lt hj), hx.ne (.hop hs ht) (Nat.ne_of_lt (Nat.lt_succ_of_lt hj))⟩

/-- `MAX_REDIRECTS = 10` (regenerated table) lets chains of up to 9 hops through; a smaller cap in the source breaks
this proof. -/
theorem Graph.resolve_of_hopsTo {g : Graph} {k : Nat} {s e : Spec} (h : HopsTo g.redirectEff k s e) (hk : k ≤ 9) :
    g.resolve s = e := by
  -- `g.resolveFuel` is the cap, 10
  refine resolveWith_chain h (show k ≤ 10 + 1 from Nat.le_trans hk (by decide)) fun max hmax => ?_
  cases (show resolveCap = some 10 from rfl).symm.trans hmax
  exact Nat.succ_le_succ hk

theorem resolveLoop_agree {r1 r2 : Spec → Option Spec} {cap : Option Nat} {P : Spec → Prop}
    (h : ∀ y, P y → r1 y = r2 y ∧ ∀ t, r2 y = some t → P t) {fuel : Nat} {seen : List Spec} {cur : Spec}
    (hp : P cur) : resolveLoop r1 cap fuel seen cur = resolveLoop r2 cap fuel seen cur := by
  induction fuel generalizing seen cur with
  | zero => rfl
  | succ fuel ih =>
    obtain ⟨heq, hnext⟩ := h cur hp
    rw [resolveLoop, resolveLoop, heq]
    cases hr : r2 cur with
    | none => rfl
    | some s => simp only [ih (hnext s hr)]

theorem resolveWith_agree {r1 r2 : Spec → Option Spec} {cap : Option Nat} {P : Spec → Prop}
    (h : ∀ y, P y → r1 y = r2 y ∧ ∀ t, r2 y = some t → P t) {fuel : Nat} {s : Spec} (hp : P s) :
    resolveWith r1 cap fuel s = resolveWith r2 cap fuel s := by
  obtain ⟨heq, hnext⟩ := h s hp
  rw [resolveWith, resolveWith, heq]
  cases hr : r2 s with
  | none => rfl
  | some s1 => exact resolveLoop_agree h (hnext s1 hr)

end DG
