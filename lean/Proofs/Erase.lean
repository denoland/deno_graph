import DG.Erase
/-! The decision trees of the fast-check transform, each read leaf by leaf: what an `.ok` answer looks like
and when the answer is a diagnostic.  `DG.FC` is the model's namespace. -/
namespace DG

theorem map_eq_ok {ε α β} {f : α → β} {x : Except ε α} {b : β} (h : x.map f = .ok b) :
    ∃ a, x = .ok a ∧ f a = b := by
  cases x with
  | error e => cases h
  | ok a => cases h; exact ⟨a, rfl, rfl⟩

theorem bind_eq_ok {ε α β} {x : Except ε α} {g : α → Except ε β} {b : β} (h : x >>= g = .ok b) :
    ∃ a, x = .ok a ∧ g a = .ok b := by
  cases x with
  | error e => cases h
  | ok a => exact ⟨a, rfl, h⟩

theorem mapM_all {ε α β} {f : α → Except ε β} {P : β → Prop} (hP : ∀ x y, f x = .ok y → P y)
    {l : List α} {ys : List β} (h : l.mapM f = .ok ys) : ∀ y ∈ ys, P y := by
  induction l generalizing ys with
  | nil => cases h; exact fun _ h => nomatch h
  | cons x l ih =>
    rw [List.mapM_cons] at h
    obtain ⟨y, hy, h⟩ := bind_eq_ok h
    obtain ⟨ys', hys, h⟩ := bind_eq_ok h
    cases h
    exact List.forall_mem_cons.2 ⟨hP x y hy, ih hys⟩

end DG

namespace DG.FC

theorem handleDefault_diag_iff (p : Param) (isOpt : Bool) (e : Expr) :
    (∃ d, handleDefault p isOpt e = .error d) ↔
      p.ty = none ∧ inferType e .mutable = none ∧ leavable e = none := by
  fun_cases handleDefault p isOpt e <;> simp [*]

theorem returnOf_some {f : Fn} {k : FnKind} {r : Option Ty} (h : returnOf f k = .ok r)
    (hk : k ≠ .setter) (hb : f.hasBody = true) : r.isSome = true := by
  revert h
  fun_cases returnOf f k <;> intro h
  · cases h
  · obtain ⟨t, -, rfl⟩ := map_eq_ok h; rfl
  · contradiction
  · cases h
    rename_i hc
    exact Option.isSome_iff_ne_none.2 (by simpa [hk] using hc)

theorem bodyOf_cases (hb : Bool) (ret : Option Ty) :
    bodyOf hb ret = .empty ∨ bodyOf hb ret = .placeholder ∨ bodyOf hb ret = .none := by
  fun_cases bodyOf hb ret <;> simp

theorem bodyOf_placeholder {hb : Bool} {ret : Option Ty} (h : bodyOf hb ret = .placeholder) :
    ∃ t, ret = some t ∧ isVoid t = false := by
  revert h
  fun_cases bodyOf hb ret <;> simp [*]

theorem arrowReturn_kept {a : Arrow} {r : Option Ty} {t : String} (h : arrowReturn a = .ok (r, some t)) :
    ∃ e, a.exprBody = some e ∧ leavable e = some t := by
  revert h
  fun_cases arrowReturn a <;> intro h
  · cases h
  · obtain ⟨_, -, h⟩ := map_eq_ok h; cases h
  · cases h
  · cases h; exact ⟨_, ‹_›, ‹_›⟩
  · cases h

theorem paramProp_shape {cp : CtorParam} {m : OMember} (h : paramProp cp = some m) :
    ∃ n a r o ty, m = .prop n a false r true o ty .dropped ∧ untypedParamProp cp = ty.isNone := by
  obtain ⟨⟨n, o, r, ty, d⟩, _ | ⟨acc, ro⟩⟩ := cp
  · cases h
  · cases h
    exact ⟨_, _, _, _, _, rfl, by cases acc <;> cases ty <;> cases d <;> rfl⟩

end DG.FC
