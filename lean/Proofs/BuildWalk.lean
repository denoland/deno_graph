import Proofs.BuildClosure
/-!
# The redirect walk at the head of `load`

`Ends st x`: following the recorded redirects from `x` through specifiers without an entry reaches a specifier that has
one.  When every recorded redirect target ends (`WalkInv`), the walk of `resolveForLoad` stops at a specifier that has an
entry or has neither entry nor redirect: a load never queues a request at a specifier that is only a redirect source.
A request keeps `WalkInv` provided the recorded redirects are the world's (`RW`, which needs a loader whose reload
answers like a normal load): settling the target of the request makes the requested specifier end too.
-/
namespace DG.Build
open DG Tables

/-- `f` is the exception: a specifier that is about to be given its entry (the final specifier of the module being
visited); until then a walk may also stop there, provided it has neither entry nor redirect -/
inductive EndsX (f : Option Spec) (st : St) : Spec → Prop
  | here {x} : (st.slot x).isSome = true → EndsX f st x
  | stop {x} : f = some x → st.slot x = none → st.redirects.lookup x = none → EndsX f st x
  | step {x y} : st.slot x = none → st.redirects.lookup x = some y → EndsX f st y → EndsX f st x

def WalkInvX (f : Option Spec) (st : St) : Prop := ∀ p ∈ st.redirects, EndsX f st p.2

abbrev Ends (st : St) (x : Spec) : Prop := EndsX none st x
abbrev WalkInv (st : St) : Prop := WalkInvX none st

theorem Ends.step {st : St} {x y : Spec} (hs : st.slot x = none) (hl : st.redirects.lookup x = some y)
    (h : Ends st y) : Ends st x := EndsX.step hs hl h

theorem EndsX.of_lookup {f : Option Spec} {st : St} {x y : Spec} (hl : st.redirects.lookup x = some y)
    (h : EndsX f st y) : EndsX f st x :=
  match hs : st.slot x with
  | some _ => .here (by rw [hs]; rfl)
  | none => .step hs hl h

inductive Hops (st : St) : Spec → Spec → Prop
  | one {a b} : st.slot a = none → st.redirects.lookup a = some b → Hops st a b
  | cons {a b c} : st.slot a = none → st.redirects.lookup a = some b → Hops st b c → Hops st a c

theorem Hops.trans {st : St} {a b c : Spec} (h1 : Hops st a b) (h2 : Hops st b c) : Hops st a c := by
  induction h1 with
  | one hs hl => exact Hops.cons hs hl h2
  | cons hs hl _ ih => exact Hops.cons hs hl (ih h2)

theorem Hops.first {st : St} {a b : Spec} (h : Hops st a b) : st.slot a = none ∧ ∃ y, st.redirects.lookup a = some y := by
  cases h with
  | one hs hl => exact ⟨hs, _, hl⟩
  | cons hs hl _ => exact ⟨hs, _, hl⟩

theorem Hops.not_endsX {f : Option Spec} {st : St} {z : Spec} (hc : Hops st z z) : ¬ EndsX f st z := by
  intro he
  induction he with
  | here hs => rw [hc.first.1] at hs; cases hs
  | stop _ _ hl =>
    obtain ⟨_, y, hy⟩ := hc.first
    rw [hl] at hy; cases hy
  | step hs hl _ ih =>
    -- the cycle through the next specifier
    apply ih
    cases hc with
    | one _ hl' => cases hl.symm.trans hl'; exact .one hs hl
    | cons _ hl' hrest => cases hl.symm.trans hl'; exact hrest.trans (.one hs hl)

/-- the invariant of the walk: the specifiers seen are distinct, all but the current one are entry-less redirect sources
leading to it, and `fuel + |seen|` stays at its initial value `(|redirects| + 1) + 1`, so fuel can only run out with more
than `|redirects|` distinct redirect sources seen -/
structure GoInv (st : St) (n : Nat) (seen : List Spec) (cur : Spec) : Prop where
  nodup : seen.Nodup
  cur_mem : cur ∈ seen
  others : ∀ y ∈ seen, y ≠ cur → Hops st y cur
  fuel : st.redirects.length + 2 ≤ n + seen.length

theorem GoInv.hop {st : St} {n : Nat} {seen : List Spec} {cur nx : Spec} (h : GoInv st n seen cur)
    (hs : st.slot cur = none) (hl : st.redirects.lookup cur = some nx) : ∀ y ∈ seen, Hops st y nx :=
  fun y hy => if he : y = cur then he ▸ Hops.one hs hl else (h.others y hy he).trans (Hops.one hs hl)

theorem resolveForLoadGo_end {f : Option Spec} {st : St} (hw : WalkInvX f st) {n : Nat} {seen : List Spec} {cur : Spec}
    (hinv : GoInv st n seen cur) (hs : st.slot (st.resolveForLoadGo n seen cur) = none) :
    st.redirects.lookup (st.resolveForLoadGo n seen cur) = none := by
  fun_induction St.resolveForLoadGo st n seen cur with
  | case1 seen cur =>
    -- out of fuel: impossible, the specifiers seen (but the current one) are distinct redirect sources
    exfalso
    have hsub : (seen.erase cur) ⊆ st.redirects.map (·.1) := by
      intro y hy
      obtain ⟨hne, hym⟩ := (List.Nodup.mem_erase_iff hinv.nodup).mp hy
      obtain ⟨_, z, hz⟩ := (hinv.others y hym hne).first
      exact List.mem_map_of_mem (mem_of_lookup_eq_some hz)
    have hlen := List.Nodup.length_le_of_subset (hinv.nodup.erase cur) hsub
    rw [List.length_erase_of_mem hinv.cur_mem, List.length_map] at hlen
    have := hinv.fuel
    omega
  | case2 n seen cur hsl => rw [hs] at hsl; cases hsl  -- stopped at an entry
  | case3 n seen cur hsl nx hl hin =>
    -- the walk would close a cycle of entry-less specifiers: excluded by the invariant
    exact absurd (hw (cur, nx) (mem_of_lookup_eq_some hl)) (hinv.hop hs hl nx hin).not_endsX
  | case4 n seen cur hsl nx hl hin ih =>  -- the hop `cur → nx`
    have hcur : st.slot cur = none := by simpa using hsl
    refine ih ⟨List.nodup_cons.mpr ⟨hin, hinv.nodup⟩, List.mem_cons_self .., fun y hy hne => ?_, ?_⟩ hs
    · exact (List.mem_cons.mp hy).elim (absurd · hne) (hinv.hop hcur hl y)
    · have := hinv.fuel
      simp only [List.length_cons]
      omega
  | case5 n seen cur hsl hl => exact hl  -- stopped for want of a redirect

theorem resolveForLoad_fresh {f : Option Spec} (st : St) (hw : WalkInvX f st) (s : Spec)
    (hs : st.slot (st.resolveForLoad s) = none) : ¬ Acc st (st.resolveForLoad s) := by
  have h := resolveForLoadGo_end hw ⟨List.pairwise_singleton _ s, List.mem_singleton_self s,
    fun y hy hne => absurd (List.mem_singleton.mp hy) hne, Nat.le_refl _⟩ hs
  intro hacc
  rcases hacc with h1 | h1
  · rw [hs] at h1; cases h1
  · unfold St.resolveForLoad at h1
    rw [h] at h1; cases h1

theorem EndsX.grew {f : Option Spec} {st st' : St} {x : Spec} (h : EndsX f st x) (hg : Grew st st') : EndsX f st' x := by
  induction h with
  | here hs => exact .here (hg.slots _ hs)
  | @stop x hf hs hl =>
    cases hx : st'.slot x with
    | some v => exact .here (by rw [hx]; rfl)
    | none => exact .stop hf hx (by rw [hg.redirects]; exact hl)
  | step _ hl _ ih => exact .of_lookup (by rw [hg.redirects]; exact hl) ih

theorem Ends.grew {st st' : St} (hg : Grew st st') {x : Spec} (h : Ends st x) : Ends st' x := EndsX.grew h hg

theorem WalkInvX.grew {f : Option Spec} {st st' : St} (h : WalkInvX f st) (hg : Grew st st') : WalkInvX f st' := by
  intro p hp
  rw [hg.redirects] at hp
  exact (h p hp).grew hg

theorem resolveForLoadGo_endsX {f : Option Spec} {st st' : St} (hg : Grew st st') {n : Nat} {seen : List Spec} {cur : Spec}
    (h : (st'.slot (st.resolveForLoadGo n seen cur)).isSome = true) : EndsX f st' cur := by
  fun_induction St.resolveForLoadGo st n seen cur with
  | case4 n seen cur _ nx hl _ ih => exact .of_lookup (by rw [hg.redirects]; exact hl) (ih h)  -- the hop `cur → nx`
  | _ => exact .here h

/-- where the world sends a specifier -/
def finalOf (w : World) (s : Spec) : Spec :=
  match w.respOf s with
  | .redirect to => to
  | .module f => f
  | .external f => f
  | _ => s

/-- the recorded redirects are the world's.  Holds for loaders whose reload answers like a normal load
(`w.reloadResp = []`): then what an outcome settles is determined by the requested specifier (`tryLoad_target`), so a
redirect recorded earlier for the same specifier has the same target. -/
def RW (w : World) (st : St) : Prop := ∀ p ∈ st.redirects, p.2 = finalOf w p.1

theorem respFor_eq (w : World) (hre : w.reloadResp = []) (s : Spec) (b : Bool) : w.respFor s b = w.respOf s := by
  unfold World.respFor
  split
  · simp [hre]
  · rfl

theorem tryLoad_target (w : World) (hre : w.reloadResp = []) (o : Opts) (r : Req) :
    (tryLoad w o r).target = r.spec ∨ (tryLoad w o r).target = finalOf w r.spec := by
  have h := tryLoad_from w o r
  revert h
  -- per outcome: `Outcome.From` names the response behind it, `finalOf` reads the same specifier off that response
  rcases tryLoad w o r with ⟨spec, a⟩ | ⟨f, cls⟩ | ⟨to⟩ | ⟨e⟩ <;>
    simp only [Outcome.From, Outcome.target, respFor_eq w hre, finalOf] <;> intro h
  · exact h.2.imp_right fun h => by rw [h]
  · obtain ⟨-, -, h⟩ := h; exact Or.inr (by rw [h])
  · exact Or.inr (by rw [h.2.2])
  · exact h.imp_right fun ⟨_, h⟩ => by rw [h]

theorem RW.lookup_checkSpecifier {w : World} {st : St} (h : RW w st) {req tgt : Spec} (hne : req ≠ tgt)
    (ht : tgt = finalOf w req) : (checkSpecifier st req tgt).redirects.lookup req = some tgt := by
  rw [lookup_redirects_checkSpecifier, if_pos ⟨rfl, hne⟩]
  cases hl : st.redirects.lookup req with
  | none => rfl
  | some y => have := h (req, y) (mem_of_lookup_eq_some hl); simp only at this; rw [this, ht]; rfl

theorem WalkInv.settled {f' : Option Spec} {w : World} {st st2 : St} {q t : Spec} (hw : WalkInv st) (hrw : RW w st)
    (ht : t = q ∨ t = finalOf w q) (hg : Grew (checkSpecifier st q t) st2) (hends : EndsX f' st2 t) :
    WalkInvX f' st2 := by
  have hq : EndsX f' st2 q := by
    by_cases hqt : q = t
    · exact hqt ▸ hends
    · exact .of_lookup (by rw [hg.redirects]; exact hrw.lookup_checkSpecifier hqt (ht.resolve_left (Ne.symm hqt))) hends
  -- what ended before does so now: only the requested specifier may have lost its entry
  have transfer : ∀ x, Ends st x → EndsX f' st2 x := by
    intro x hx
    induction hx with
    | @here x hs =>
      by_cases hxq : x = q
      · exact hxq ▸ hq
      · exact .here (hg.slots _ (by rw [slot_checkSpecifier, if_neg fun h => hxq h.1]; exact hs))
    | stop hf _ _ => cases hf
    | step _ hl _ ih => exact .of_lookup (by rw [hg.redirects, lookup_redirects_checkSpecifier, hl]; rfl) ih
  intro p hp
  rw [hg.redirects] at hp
  exact forall_redirects_checkSpecifier (P := fun p => EndsX f' st2 p.2) st q t (fun p hp => transfer _ (hw p hp))
    (fun _ => hends) p hp

/-- before the module is visited a walk may stop at its final specifier `f`: that has an entry already, or neither an
entry nor (the world being consistent, `hfin`) a recorded redirect -/
theorem WalkInv.module {w : World} {st st2 : St} {q f : Spec} (hw : WalkInv st) (hrw : RW w st)
    (hfin : ∀ q f, w.respOf q = .module f → f ≠ q → finalOf w f = f) (hns : ∀ p ∈ st.redirects, p.1 ≠ p.2)
    (hresp : w.respOf q = .module f) (hg : Grew (checkSpecifier st q f) st2) : WalkInvX (some f) st2 := by
  have hqf : finalOf w q = f := by simp [finalOf, hresp]
  have hff : finalOf w f = f := by
    by_cases he : f = q
    · rw [he]; exact he ▸ hqf
    · exact hfin q f hresp he
  refine hw.settled hrw (Or.inr hqf.symm) hg ?_
  cases hs : st2.slot f with
  | some v => exact .here (by rw [hs]; rfl)
  | none =>
    refine .stop rfl hs ?_
    rw [hg.redirects, lookup_redirects_checkSpecifier, if_neg fun h => h.2 h.1.symm]
    cases hl : st.redirects.lookup f with
    | none => rfl
    | some g =>
      have hm := mem_of_lookup_eq_some hl
      exact absurd ((hrw _ hm).trans hff).symm (hns _ hm)

/-- the two invariants of the redirect table that termination rests on -/
structure WR (w : World) (st : St) : Prop where
  walk : WalkInv st
  rw : RW w st

theorem WR.grew {w : World} {st st' : St} (h : WR w st) (hg : Grew st st') : WR w st' :=
  ⟨h.walk.grew hg, fun p hp => h.rw p (by rw [← hg.redirects]; exact hp)⟩

theorem grew_stepPending (w : World) (o : Opts) (r : Req) (st : St) :
    Grew (checkSpecifier st r.spec (tryLoad w o r).target) (stepPending w o r st) ∧
    Ends (stepPending w o r st) (tryLoad w o r).target := by
  obtain ⟨st1, hs, -, hcase⟩ := stepPending_shape w o r st
  rcases hcase with ⟨to, hto, e⟩ | ⟨_, he⟩
  · have hg := grew_load w o (r.count + 1) (r.follow to) st1
    rw [hto] at hs
    rw [e, hto]
    exact ⟨hs.grew.trans hg, resolveForLoadGo_endsX hg (load_endpoint_slot w o _ _ _)⟩
  · have hg := hs.grew.trans he.visits.grew
    have hset := he.settled
    generalize stepPending w o r st = st' at hset ⊢
    cases hset with
    | set => exact ⟨hg.trans (grew_setSlot _ _ _), .here (by rw [slot_setSlot, if_pos rfl]; rfl)⟩
    | keep sl' hsl => exact ⟨hg, .here (by rw [hsl]; rfl)⟩

theorem WR.stepPending {w : World} {st : St} (h : WR w st) (hre : w.reloadResp = []) (o : Opts) (r : Req) :
    WR w (Build.stepPending w o r st) := by
  obtain ⟨hg, he⟩ := grew_stepPending w o r st
  have ht := tryLoad_target w hre o r
  refine ⟨h.walk.settled h.rw ht hg he, fun p hp => ?_⟩
  rw [hg.redirects] at hp
  exact forall_redirects_checkSpecifier st r.spec _ h.rw (fun hne => ht.resolve_left (Ne.symm hne)) p hp

end DG.Build
