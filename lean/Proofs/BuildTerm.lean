import Proofs.BuildWalk
import Proofs.BuildProgress
/-!
# The measure that decreases along the build loop

Over a finite universe `U` of specifiers: `T` = specifiers neither entered nor redirected yet,
`A` = asset stand-ins plus asset requests in flight, `Q` = the redirect budget left to the queued
requests.  Lexicographically `(T, A, Q)` never increases, and decreases whenever a request is taken
off the queue.

Why three components.  A `load` that queues a request (`Loaded.queue`) raises `Q` by its budget.  Mostly the request is
for a specifier not accounted for before, and `T` drops.  The exception: a load that needs the content arrives at a
specifier that was loaded as an asset only (an `external true` stand-in); `T` stays, but a stand-in disappears, which
is what `A` counts.  Stand-ins come from settling asset requests, so `A` counts the asset requests in flight too, and
settling one does not raise it; queuing an asset request raises `A`, but only at a new specifier, where `T` drops.
With `T` and `A` unchanged — a redirect whose load queues a request at a specifier accounted for already, an error, an
entry that is kept — `Q` drops, because the request taken off weighs more than the one that may follow it (`budget`).
-/
namespace DG.Build
open DG Tables

def accB (st : St) (x : Spec) : Bool := (st.slot x).isSome || (st.redirects.lookup x).isSome

theorem accB_iff {st : St} {x : Spec} : accB st x = true ↔ Acc st x := Bool.or_eq_true_iff

def isExtAsset (st : St) (x : Spec) : Bool :=
  match st.slot x with
  | some (.module (.external true)) => true
  | _ => false

def T (U : List Spec) (st : St) : Nat := U.countP fun x => !accB st x

def A (U : List Spec) (st : St) : Nat := U.countP (isExtAsset st) + st.pending.countP (·.isAsset)

/-- the weight of a queued request.  The leading `1`: a request that can follow no redirect any more still weighs
something, so taking it off the queue lowers `Q`.  `maxRedirects + 1 - count` bounds the redirects it may still follow: one
is followed only while `count < maxRedirects`, by a request with `count + 1`, which weighs less (`budget_follow`; the
`+ 1` inside is slack, `maxRedirects - count` would do). -/
def budget (w : World) (r : Req) : Nat := 1 + (w.maxRedirects + 1 - r.count)

def Q (w : World) (st : St) : Nat := (st.pending.map (budget w)).sum

theorem not_accB_iff {st : St} {x : Spec} : (!accB st x) = true ↔ ¬ Acc st x := by
  rw [Bool.not_eq_true', ← Bool.not_eq_true, accB_iff]

theorem T_le_of_acc (U : List Spec) {st st' : St} (h : ∀ x, Acc st x → Acc st' x) : T U st' ≤ T U st :=
  List.countP_mono_left fun x _ hx => not_accB_iff.mpr (mt (h x) (not_accB_iff.mp hx))

theorem T_lt_of_acc (U : List Spec) {st st' : St} (h : ∀ x, Acc st x → Acc st' x) {e : Spec} (he : e ∈ U)
    (h0 : ¬ Acc st e) (h1 : Acc st' e) : T U st' < T U st :=
  countP_lt_of_imp (fun x _ hx => not_accB_iff.mpr (mt (h x) (not_accB_iff.mp hx))) he
    (not_accB_iff.mpr h0) (by rw [Bool.not_eq_false']; exact accB_iff.mpr h1)

def isExtAssetSlot : BSlot → Bool
  | .module (.external a) => a
  | _ => false

theorem isExtAsset_eq (st : St) (x : Spec) : isExtAsset st x = ((st.slot x).map isExtAssetSlot).getD false := by
  unfold isExtAsset
  rcases st.slot x with _ | ((_ | _ | _ | _ | (_ | _)) | _ | _) <;> rfl

theorem isExtAsset_setSlot (st : St) (k : Spec) (v : BSlot) (x : Spec) :
    isExtAsset (st.setSlot k v) x = if x = k then isExtAssetSlot v else isExtAsset st x := by
  rw [isExtAsset_eq, slot_setSlot]
  split
  · rfl
  · rw [isExtAsset_eq]

theorem isExtAsset_setSlot_imp (st : St) (k : Spec) (v : BSlot) (hv : isExtAssetSlot v = false) (x : Spec)
    (hx : isExtAsset (st.setSlot k v) x = true) : isExtAsset st x = true := by
  rw [isExtAsset_setSlot] at hx
  split at hx
  · rw [hv] at hx; cases hx
  · exact hx

theorem countP_isExtAsset_setSlot_lt (U : List Spec) (st : St) (k : Spec) (v : BSlot) (hv : isExtAssetSlot v = false)
    (hk : k ∈ U) (hwas : isExtAsset st k = true) :
    U.countP (isExtAsset (st.setSlot k v)) < U.countP (isExtAsset st) :=
  countP_lt_of_imp (fun x _ => isExtAsset_setSlot_imp st k v hv x) hk hwas (by rw [isExtAsset_setSlot, if_pos rfl, hv])

theorem isExtAsset_checkSpecifier (st : St) (req tgt x : Spec) :
    isExtAsset (checkSpecifier st req tgt) x = isExtAsset st x := by
  rw [isExtAsset_eq, isExtAsset_eq, slot_checkSpecifier]
  split
  · rename_i h
    rw [h.1]
    rcases st.slot req with _ | (_ | _ | _) <;> rfl
  · rfl

def Lex3 (R : Nat → Nat → Prop) (a b : Nat × Nat × Nat) : Prop :=
  a.1 < b.1 ∨ (a.1 = b.1 ∧ (a.2.1 < b.2.1 ∨ (a.2.1 = b.2.1 ∧ R a.2.2 b.2.2)))

def LexLe (a b : Nat × Nat × Nat) : Prop := Lex3 (· ≤ ·) a b

/-- `Lex3 (· < ·)`, written out -/
def LexLt (a b : Nat × Nat × Nat) : Prop :=
  a.1 < b.1 ∨ (a.1 = b.1 ∧ (a.2.1 < b.2.1 ∨ (a.2.1 = b.2.1 ∧ a.2.2 < b.2.2)))

theorem Lex3.trans {R S RS : Nat → Nat → Prop} (hRS : ∀ {x y z}, R x y → S y z → RS x z) {a b c : Nat × Nat × Nat}
    (h1 : Lex3 R a b) (h2 : Lex3 S b c) : Lex3 RS a c := by
  rcases h1 with h1 | ⟨e1, h1 | ⟨e1', h1⟩⟩
  · rcases h2 with h2 | ⟨e2, _⟩
    · exact .inl (Nat.lt_trans h1 h2)
    · exact .inl (e2 ▸ h1)
  · rcases h2 with h2 | ⟨e2, h2 | ⟨e2', h2⟩⟩
    · exact .inl (e1 ▸ h2)
    · exact .inr ⟨e1.trans e2, .inl (Nat.lt_trans h1 h2)⟩
    · exact .inr ⟨e1.trans e2, .inl (e2' ▸ h1)⟩
  · rcases h2 with h2 | ⟨e2, h2 | ⟨e2', h2⟩⟩
    · exact .inl (e1 ▸ h2)
    · exact .inr ⟨e1.trans e2, .inl (e1' ▸ h2)⟩
    · exact .inr ⟨e1.trans e2, .inr ⟨e1'.trans e2', hRS h1 h2⟩⟩

theorem Lex3.of_le {R : Nat → Nat → Prop} {a b : Nat × Nat × Nat} (h1 : a.1 ≤ b.1) (h2 : a.2.1 ≤ b.2.1)
    (h3 : R a.2.2 b.2.2) : Lex3 R a b :=
  (Nat.lt_or_eq_of_le h1).imp_right fun e => ⟨e, (Nat.lt_or_eq_of_le h2).imp_right fun e' => ⟨e', h3⟩⟩

theorem LexLe.refl (a : Nat × Nat × Nat) : LexLe a a := Or.inr ⟨rfl, Or.inr ⟨rfl, Nat.le_refl _⟩⟩

theorem LexLe.trans {a b c : Nat × Nat × Nat} (h1 : LexLe a b) (h2 : LexLe b c) : LexLe a c :=
  Lex3.trans Nat.le_trans h1 h2

theorem LexLt.of_le_of_lt {a b c : Nat × Nat × Nat} (h1 : LexLe a b) (h2 : LexLt b c) : LexLt a c :=
  Lex3.trans (S := (· < ·)) (RS := (· < ·)) Nat.lt_of_le_of_lt h1 h2

theorem LexLt.of_lt_of_le {a b c : Nat × Nat × Nat} (h1 : LexLt a b) (h2 : LexLe b c) : LexLt a c :=
  Lex3.trans (R := (· < ·)) (RS := (· < ·)) Nat.lt_of_lt_of_le h1 h2

theorem LexLt.le {a b : Nat × Nat × Nat} (h : LexLt a b) : LexLe a b :=
  h.imp_right fun ⟨e, h⟩ => ⟨e, h.imp_right fun ⟨e', h⟩ => ⟨e', Nat.le_of_lt h⟩⟩

def mu (w : World) (U : List Spec) (st : St) : Nat × Nat × Nat := (T U st, A U st, Q w st)

theorem lexLe_mu_iff {w : World} {U : List Spec} {st' st : St} : LexLe (mu w U st') (mu w U st) ↔
    T U st' < T U st ∨ T U st' = T U st ∧ (A U st' < A U st ∨ A U st' = A U st ∧ Q w st' ≤ Q w st) := Iff.rfl

/-- the measure of `st` is at most `m` in every component.  Each update of the state keeps such a bound or moves it by
what it adds to the queue; `Below.lexLe` and `Below.lexLt` turn a bound into a lexicographic comparison. -/
def Below (w : World) (U : List Spec) (st : St) (m : Nat × Nat × Nat) : Prop :=
  T U st ≤ m.1 ∧ A U st ≤ m.2.1 ∧ Q w st ≤ m.2.2

theorem measure_loadPendingModule (w : World) (U : List Spec) (st : St) (lo : LoadOpts) (count : Nat) (spec : Spec) :
    T U (loadPendingModule w st lo count spec) = T U (st.setSlot spec (.pending lo.isAsset)) ∧
    A U (loadPendingModule w st lo count spec) =
      A U (st.setSlot spec (.pending lo.isAsset)) + (if lo.isAsset then 1 else 0) ∧
    Q w (loadPendingModule w st lo count spec) = Q w st + (1 + (w.maxRedirects + 1 - count)) := by
  refine ⟨rfl, ?_, ?_⟩
  · unfold A
    show U.countP (isExtAsset (st.setSlot spec (.pending lo.isAsset))) + List.countP _ (st.pending ++ [_]) = _
    rw [List.countP_append, List.countP_singleton, pending_setSlot, ← Nat.add_assoc]
  · show (List.map _ (_ ++ [_])).sum = _
    rw [List.map_append, List.sum_append_nat]
    rfl

namespace Below
variable {w : World} {U : List Spec} {st st' : St} {m : Nat × Nat × Nat} {t a q : Nat}

theorem refl (w : World) (U : List Spec) (st : St) : Below w U st (mu w U st) :=
  ⟨Nat.le_refl _, Nat.le_refl _, Nat.le_refl _⟩

theorem lexLe (h : Below w U st m) : LexLe (mu w U st) m :=
  Lex3.of_le h.1 h.2.1 h.2.2

theorem lexLt {a' q' : Nat} (h : Below w U st (t, a, q)) (ha : a ≤ a') (hq : q < q') :
    LexLt (mu w U st) (t, a', q') :=
  Lex3.of_le (R := (· < ·)) h.1 (Nat.le_trans h.2.1 ha) (Nat.lt_of_le_of_lt h.2.2 hq)

theorem same (h : Below w U st m) (hs : Same st st') : Below w U st' m := by
  rw [hs.frame]
  exact h

theorem mono (h : Below w U st m) (hacc : ∀ x, Acc st x → Acc st' x)
    (hext : ∀ x, isExtAsset st' x = true → isExtAsset st x = true) (hp : st'.pending = st.pending) :
    Below w U st' m := by
  refine ⟨Nat.le_trans (T_le_of_acc U hacc) h.1, Nat.le_trans ?_ h.2.1, ?_⟩
  · unfold A; rw [hp]; exact Nat.add_le_add_right (List.countP_mono_left fun x _ => hext x) _
  · unfold Q; rw [hp]; exact h.2.2

theorem setSlot (h : Below w U st m) (k : Spec) (v : BSlot) (hv : isExtAssetSlot v = false) :
    Below w U (st.setSlot k v) m :=
  h.mono (fun _ hx => hx.setSlot k v) (isExtAsset_setSlot_imp st k v hv) rfl

theorem setSlot_succ (h : Below w U st (t, a, q)) (hU : U.Nodup) (k : Spec) (v : BSlot) :
    Below w U (st.setSlot k v) (t, a + 1, q) := by
  refine ⟨Nat.le_trans (T_le_of_acc U fun _ hx => hx.setSlot k v) h.1, ?_, h.2.2⟩
  have : U.countP (isExtAsset (st.setSlot k v)) ≤ U.countP (isExtAsset st) + 1 :=
    countP_le_succ_of_imp_except hU (k := k) fun x _ hxk hx => by rwa [isExtAsset_setSlot, if_neg hxk] at hx
  have h2 : A U st ≤ a := h.2.1
  show _ + _ ≤ a + 1
  unfold A at h2
  rw [pending_setSlot]
  omega

theorem checkSpecifier (h : Below w U st m) (req tgt : Spec) : Below w U (Build.checkSpecifier st req tgt) m :=
  h.mono (fun _ hx => hx.checkSpecifier req tgt) (fun x hx => isExtAsset_checkSpecifier st req tgt x ▸ hx)
    (by rw [checkSpecifier_frame])

/-- the last summand is the `budget` of the queued request -/
theorem loadPendingModule (h : Below w U st (t, a, q)) (lo : LoadOpts) (count : Nat) (spec : Spec) :
    Below w U (Build.loadPendingModule w st lo count spec)
      (t, a + (if lo.isAsset then 1 else 0), q + (1 + (w.maxRedirects + 1 - count))) := by
  obtain ⟨hT, hA, hQ⟩ := measure_loadPendingModule w U st lo count spec
  obtain ⟨h1, h2, -⟩ := h.setSlot spec (.pending lo.isAsset) rfl
  exact ⟨hT ▸ h1, hA ▸ Nat.add_le_add_right h2 _, hQ ▸ Nat.add_le_add_right h.2.2 _⟩

theorem load_or_queue (h : Below w U st m) (o : Opts) (count : Nat) (lo : LoadOpts) :
    Below w U (load w o count lo st) m ∨ NeedsRequest lo st (st.resolveForLoad lo.spec) ∧
      load w o count lo st = Build.loadPendingModule w st lo count (st.resolveForLoad lo.spec) := by
  have hl := load_cases w o count lo st
  generalize load w o count lo st = st' at hl ⊢
  cases hl with
  | reject e => exact .inl (h.setSlot _ _ rfl)
  | skip => exact .inl h
  | defer => rw [addDeferred_frame]; exact .inl h
  | node => exact .inl (h.setSlot _ _ rfl)
  | queue hq => exact .inr ⟨hq, rfl⟩

end Below

def UVals (U : List Spec) (st : St) : Prop := ∀ p ∈ st.redirects, p.2 ∈ U

theorem resolveForLoad_mem (U : List Spec) (st : St) (hu : UVals U st) (x : Spec) (hx : x ∈ U) :
    st.resolveForLoad x ∈ U :=
  (resolveForLoad_cases st x).elim (fun e => by rwa [e]) fun ⟨_, p, hp, e⟩ => e ▸ hu p hp

theorem mu_load_le {f : Option Spec} (w : World) (o : Opts) (U : List Spec) (count : Nat) (lo : LoadOpts) (st : St)
    (hw : WalkInvX f st) (hu : UVals U st) (hx : lo.spec ∈ U) :
    LexLe (mu w U (load w o count lo st)) (mu w U st) := by
  have he := resolveForLoad_mem U st hu lo.spec hx
  rcases (Below.refl w U st).load_or_queue o count lo with h | ⟨hp, hl⟩
  · exact h.lexLe
  · rw [hl, lexLe_mu_iff]
    obtain ⟨hT, hA, -⟩ := measure_loadPendingModule w U st lo count (st.resolveForLoad lo.spec)
    have hacc : ∀ x, Acc st x → Acc (st.setSlot (st.resolveForLoad lo.spec) (.pending lo.isAsset)) x :=
      fun _ hx => hx.setSlot _ _
    rw [hT, hA]
    rcases hp with hnone | ⟨hext, hna⟩
    · -- a specifier never seen before
      exact Or.inl (T_lt_of_acc U hacc he (resolveForLoad_fresh st hw lo.spec hnone) (acc_setSlot_self ..))
    · -- an asset stand-in whose contents are now needed
      have hlt : A U (st.setSlot (st.resolveForLoad lo.spec) (.pending lo.isAsset)) < A U st :=
        Nat.add_lt_add_right (countP_isExtAsset_setSlot_lt U st _ _ rfl he (by unfold isExtAsset; rw [hext])) _
      rw [show (if lo.isAsset = true then 1 else 0) = 0 by rw [hna]; rfl, Nat.add_zero]
      exact (Nat.lt_or_eq_of_le (T_le_of_acc U hacc)).imp_right fun h => ⟨h, Or.inl hlt⟩

structure KeysIn (U : List Spec) (st : St) : Prop where
  dyn : ∀ p ∈ st.dyn, p.1 ∈ U
  deferred : ∀ p ∈ st.deferred, p.1 ∈ U

theorem UVals.grew {U : List Spec} {st st' : St} (h : UVals U st) (hg : Grew st st') : UVals U st' := by
  intro p hp; rw [hg.redirects] at hp; exact h p hp

theorem KeysIn.load {U : List Spec} {st : St} (hk : KeysIn U st) (hu : UVals U st) (w : World) (o : Opts) (count : Nat)
    (lo : LoadOpts) (hx : lo.spec ∈ U) : KeysIn U (Build.load w o count lo st) := by
  have hl := load_cases w o count lo st
  generalize Build.load w o count lo st = st' at hl ⊢
  cases hl with
  | defer =>
    -- the key of the deferred load is where the walk ends
    rw [addDeferred_frame]
    refine ⟨hk.dyn, fun p hp => ?_⟩
    unfold addDeferred at hp
    split at hp
    · exact hk.deferred p hp
    · exact (List.mem_append.mp hp).elim (hk.deferred p) fun hp =>
        List.mem_singleton.mp hp ▸ resolveForLoad_mem U st hu _ hx
  | _ => exact ⟨hk.dyn, hk.deferred⟩

theorem Visits.mu_le {w : World} {o : Opts} {xs U : List Spec} {st st' : St} (hv : Visits w o xs st st')
    (hV : ∀ s ∈ xs, s ∈ U) {fx : Option Spec} (hw : WalkInvX fx st) (hu : UVals U st) :
    LexLe (mu w U st') (mu w U st) := by
  induction hv with
  | refl => exact .refl _
  | @load _ s _ count lo _ ih =>
    have hg := grew_load w o count lo s
    obtain ⟨h1, h2⟩ := List.forall_mem_cons.mp hV
    exact (ih h2 (hw.grew hg) (hu.grew hg)).trans (mu_load_le w o U count lo s hw hu h1)
  | @register _ s _ x dyn' _ _ _ ih =>
    exact ih (List.forall_mem_cons.mp hV).2 (hw.grew (st := s) (grew_of_eq rfl rfl)) hu

theorem Visits.keysIn {w : World} {o : Opts} {xs U : List Spec} {st st' : St} (hv : Visits w o xs st st')
    (hV : ∀ s ∈ xs, s ∈ U) (hu : UVals U st) (hk : KeysIn U st) : KeysIn U st' := by
  induction hv with
  | refl => exact hk
  | @load _ s _ count lo _ ih =>
    obtain ⟨h1, h2⟩ := List.forall_mem_cons.mp hV
    exact ih h2 (hu.grew (grew_load w o count lo s)) (hk.load hu w o count lo h1)
  | @register _ s _ x dyn' _ hkeys _ ih =>
    obtain ⟨h1, h2⟩ := List.forall_mem_cons.mp hV
    refine ih h2 hu ⟨fun p hp => ?_, hk.deferred⟩
    rcases (hkeys p.1).mp (List.mem_map_of_mem hp) with h | h
    · obtain ⟨q, hq, hqp⟩ := List.mem_map.mp h
      exact hqp ▸ hk.dyn q hq
    · exact h ▸ h1

def DepsIn (U : List Spec) (deps : List BDep) : Prop :=
  ∀ d ∈ deps, (∀ s r, d.code = .ok s r → s ∈ U) ∧ (∀ s r, d.type = .ok s r → s ∈ U)

structure ParsedIn (U : List Spec) (p : Parsed) : Prop where
  deps : DepsIn U p.deps
  types : ∀ s r, p.typesDep = some (.ok s r) → s ∈ U
  sourceMap : ∀ s r, p.sourceMapDep = some (.ok s r) → s ∈ U

theorem parsedIn_iff {U : List Spec} {p : Parsed} : ParsedIn U p ↔ ∀ s ∈ parsedTargets p, s ∈ U := by
  simp only [parsedTargets, mentionedTargets, List.forall_mem_append, List.forall_mem_flatMap, forall_resTargets,
    forall_optTargets]
  exact ⟨fun h => ⟨⟨h.deps, h.types⟩, h.sourceMap⟩, fun h => ⟨h.1.1, h.1.2, h.2⟩⟩

/-- what termination assumes of the world: a cache-bypassing reload answers like a normal load, the final specifier a
module is served under does not itself lead elsewhere, and everything the world mentions lies in the (duplicate-free)
universe -/
structure WorldOk (w : World) (U : List Spec) : Prop where
  reload : w.reloadResp = []
  finals : ∀ q f, w.respOf q = .module f → f ≠ q → finalOf w f = f
  parsed : ∀ s, ParsedIn U (w.contentOf s).parsed
  finalIn : ∀ s, finalOf w s ≠ s → finalOf w s ∈ U
  nodup : U.Nodup

/-- the invariants of the loop: the two of `Proofs/BuildProgress.lean` (for the bound on idle iterations) and those the
measure rests on (`UInv`) -/
structure TInv (w : World) (U : List Spec) (st : St) : Prop where
  pend : PendInv st
  dynInv : DynInv st
  wr : WR w st
  noSelf : ∀ p ∈ st.redirects, p.1 ≠ p.2
  uvals : UVals U st
  keys : KeysIn U st

theorem mu_pop (w : World) (U : List Spec) (st : St) (r : Req) (rest : List Req) (hp : st.pending = r :: rest) :
    mu w U st = (T U { st with pending := rest }, A U { st with pending := rest } + (if r.isAsset then 1 else 0),
      Q w { st with pending := rest } + budget w r) := by
  unfold mu A Q
  rw [hp, List.countP_cons, List.map_cons, List.sum_cons, Nat.add_assoc, Nat.add_comm (budget w r)]
  rfl

theorem tryLoad_target_mem {w : World} {U : List Spec} (hwo : WorldOk w U) (o : Opts) (r : Req)
    (hne : r.spec ≠ (tryLoad w o r).target) : (tryLoad w o r).target ∈ U := by
  rcases tryLoad_target w hwo.reload o r with h | h
  · exact absurd h.symm hne
  · rw [h]; exact hwo.finalIn r.spec (by rw [← h]; exact fun e => hne e.symm)

theorem KeysIn.stepPending {w : World} {U : List Spec} {st : St} (hk : KeysIn U st) (hu : UVals U st) (hwo : WorldOk w U)
    (o : Opts) (r : Req) : KeysIn U (Build.stepPending w o r st) := by
  obtain ⟨st1, hs, -, hcase⟩ := stepPending_shape w o r st
  have ht := tryLoad_target_mem hwo o r
  have hu1 := UVals.grew (forall_redirects_checkSpecifier st r.spec _ hu ht) hs.grew
  have hk1 : KeysIn U st1 := by rw [hs.frame, checkSpecifier_frame]; exact ⟨hk.dyn, hk.deferred⟩
  rcases hcase with ⟨to, hto, e⟩ | ⟨xs, he⟩
  · have hf := tryLoad_from w o r
    rw [hto] at hf ht
    rw [e]
    exact hk1.load hu1 w o _ _ (ht fun e => hf.1 e.symm)
  · have h2 := he.visits.keysIn (fun s hs => parsedIn_iff.mp (hwo.parsed r.spec) s (he.within hs)) hu1 hk1
    rw [he.settled.frame]
    exact ⟨h2.dyn, h2.deferred⟩

theorem Settled.below {w : World} {U : List Spec} {s : Spec} {sl : BSlot} {st st' : St} {t a q : Nat}
    (h : Settled s sl st st') (hU : U.Nodup) (hb : Below w U st (t, a, q)) :
    Below w U st' (t, a + (if isExtAssetSlot sl then 1 else 0), q) := by
  cases h with
  | set =>
    cases hsl : isExtAssetSlot sl
    · exact hb.setSlot s sl hsl
    · exact hb.setSlot_succ hU s sl
  | keep => exact ⟨hb.1, Nat.le_trans hb.2.1 (Nat.le_add_right _ _), hb.2.2⟩

theorem visitModule_slot_not_ext (w : World) (o : Opts) (cls : Class) (c : Content) (st : St) :
    isExtAssetSlot (visitModule w o cls c st).1 = false := by
  cases cls with
  | js mt => simp only [visitModule]; split <;> rfl
  | _ => rfl

theorem ite_le_ite_of_imp {b c : Bool} (h : b = true → c = true) : (if b then 1 else 0) ≤ (if c then 1 else 0) := by
  cases b
  · exact Nat.zero_le _
  · rw [h rfl]; exact Nat.le_refl _

theorem budget_follow (w : World) (r : Req) (h : r.count < w.maxRedirects) :
    1 + (w.maxRedirects + 1 - (r.count + 1)) < budget w r :=
  Nat.add_lt_add_left (Nat.sub_lt_sub_left (Nat.lt_succ_of_lt h) (Nat.lt_succ_self _)) 1

/-- `st`: the state with the request taken off the queue; the right-hand side is the measure before (`mu_pop`) -/
theorem stepPending_lt {w : World} {U : List Spec} (hwo : WorldOk w U) (o : Opts) (r : Req) {st : St} (hwr : WR w st)
    (hns : ∀ p ∈ st.redirects, p.1 ≠ p.2) (hu : UVals U st) :
    LexLt (mu w U (stepPending w o r st)) (T U st, A U st + (if r.isAsset then 1 else 0), Q w st + budget w r) := by
  have hq : Q w st < Q w st + budget w r := Nat.lt_add_of_pos_right (Nat.add_pos_left Nat.one_pos _)
  have hf := tryLoad_from w o r
  obtain ⟨st1, hs, -, hcase⟩ := stepPending_shape w o r st
  have hb := ((Below.refl w U st).checkSpecifier r.spec (tryLoad w o r).target).same hs
  have hu1 := UVals.grew (forall_redirects_checkSpecifier st r.spec _ hu (tryLoad_target_mem hwo o r)) hs.grew
  rcases hcase with ⟨to, hto, e⟩ | ⟨xs, he⟩
  · -- the load that follows a redirect (nothing is known of where the new redirect leads) may queue a
    -- request at a specifier that is accounted for already: that request has less budget
    rw [hto] at hf
    rw [e]
    rcases hb.load_or_queue o (r.count + 1) (r.follow to) with h | ⟨-, hl⟩
    · exact h.lexLt (Nat.le_add_right _ _) hq
    · rw [hl]
      exact (hb.loadPendingModule _ _ _).lexLt (Nat.le_refl _) (Nat.add_lt_add_left (budget_follow w r hf.2.1) _)
  rcases hout : tryLoad w o r with ⟨spec, isAsset⟩ | ⟨f, cls⟩ | ⟨to⟩ | ⟨e⟩ <;> rw [hout] at hf he hs
  · -- visits nothing: the bound moves by the stand-in it may enter
    exact (he.settled.below hwo.nodup hb).lexLt (Nat.add_le_add_left (ite_le_ite_of_imp hf.1) _) hq
  · -- a module: the loads of its visit are fresh ones
    have hresp : w.respOf r.spec = .module f := by
      obtain ⟨-, b, hb⟩ := hf
      rwa [respFor_eq w hwo.reload] at hb
    have hv := he.visits.mu_le (fun s hs => parsedIn_iff.mp (hwo.parsed r.spec) s (he.within hs))
      (hwr.walk.module hwr.rw hwo.finals hns hresp hs.grew) hu1
    have h3 := he.settled.below hwo.nodup (Below.refl w U _)
    rw [Outcome.entry, visitModule_slot_not_ext] at h3
    exact .of_le_of_lt (h3.lexLe.trans (hv.trans hb.lexLe)) ((Below.refl w U st).lexLt (Nat.le_add_right _ _) hq)
  · -- a redirect enters nothing (`Outcome.entry` is a pending slot there)
    exact absurd rfl (he.finished false)
  · exact (he.settled.below hwo.nodup hb).lexLt (Nat.add_le_add_left (Nat.zero_le _) _) hq

theorem stepPending_decreases (w : World) (o : Opts) (U : List Spec) (hwo : WorldOk w U) (st : St) (r : Req) (rest : List Req)
    (hp : st.pending = r :: rest) (inv : TInv w U st) :
    LexLt (mu w U (stepPending w o r { st with pending := rest })) (mu w U st) := by
  rw [mu_pop w U st r rest hp]
  exact stepPending_lt hwo o r (inv.wr.grew (grew_of_eq rfl rfl)) inv.noSelf inv.uvals

/-- the part of `TInv` that the measure rests on.  Unlike the rest it also holds between taking a
request off the queue and the drain that follows. -/
structure UInv (w : World) (U : List Spec) (st : St) : Prop where
  wr : WR w st
  noSelf : ∀ p ∈ st.redirects, p.1 ≠ p.2
  uvals : UVals U st
  keys : KeysIn U st

theorem TInv.uinv {w : World} {U : List Spec} {st : St} (h : TInv w U st) : UInv w U st :=
  ⟨h.wr, h.noSelf, h.uvals, h.keys⟩

theorem UInv.tinv {w : World} {U : List Spec} {st : St} (h : UInv w U st) (hp : PendInv st) (hd : DynInv st) :
    TInv w U st :=
  ⟨hp, hd, h.wr, h.noSelf, h.uvals, h.keys⟩

theorem UInv.grew {w : World} {U : List Spec} {st st' : St} (h : UInv w U st) (hg : Grew st st')
    (hk : KeysIn U st') : UInv w U st' :=
  ⟨h.wr.grew hg, fun p hp => h.noSelf p (hg.redirects ▸ hp), h.uvals.grew hg, hk⟩

theorem Visits.uinv {w : World} {o : Opts} {xs U : List Spec} {st st' : St} (hv : Visits w o xs st st')
    (hV : ∀ s ∈ xs, s ∈ U) (h : UInv w U st) : LexLe (mu w U st') (mu w U st) ∧ UInv w U st' :=
  ⟨hv.mu_le hV h.wr.walk h.uvals, h.grew hv.grew (hv.keysIn hV h.uvals h.keys)⟩

theorem UInv.stepPending {w : World} {U : List Spec} {st : St} (h : UInv w U st) (hwo : WorldOk w U) (o : Opts) (r : Req) :
    UInv w U (Build.stepPending w o r st) := by
  refine ⟨h.wr.stepPending hwo.reload o r, fun p hp => ?_, fun p hp => ?_,
    h.keys.stepPending h.uvals hwo o r⟩ <;> rw [(grew_stepPending w o r st).1.redirects] at hp
  · exact forall_redirects_checkSpecifier st _ _ h.noSelf id p hp
  · exact forall_redirects_checkSpecifier st _ _ h.uvals (tryLoad_target_mem hwo o r) p hp

theorem UInv.drain {w : World} {U : List Spec} {st : St} (h : UInv w U st) (o : Opts) :
    LexLe (mu w U (Build.drain w o st)) (mu w U st) ∧ UInv w U (Build.drain w o st) := by
  have hd := drain_cases w o st
  generalize Build.drain w o st = st' at hd ⊢
  cases hd with
  | idle => exact ⟨.refl _, h⟩
  | deferred hv =>
    exact hv.uinv (List.forall_mem_map.mpr h.keys.deferred)
      (h.grew (st' := { st with deferred := [] }) (grew_of_eq rfl rfl) ⟨h.keys.dyn, fun _ h => nomatch h⟩)
  | dyn hv =>
    exact hv.uinv (List.forall_mem_map.mpr h.keys.dyn)
      (h.grew (st' := { st with inDyn := true, dyn := [] }) (grew_of_eq rfl rfl) ⟨fun _ h => (nomatch h), h.keys.deferred⟩)

theorem iter_spec (w : World) (o : Opts) (U : List Spec) (hwo : WorldOk w U) (st : St) (inv : TInv w U st) :
    TInv w U (iter w o st) ∧ LexLe (mu w U (iter w o st)) (mu w U st) ∧
    (st.pending ≠ [] → LexLt (mu w U (iter w o st)) (mu w U st)) := by
  have h : UInv w U (iter w o st) ∧ LexLe (mu w U (iter w o st)) (mu w U st) ∧
      (st.pending ≠ [] → LexLt (mu w U (iter w o st)) (mu w U st)) := by
    unfold iter
    rcases hp : st.pending with _ | ⟨r, rest⟩
    · obtain ⟨hle, h⟩ := inv.uinv.drain o
      exact ⟨h, hle, fun hne => absurd rfl hne⟩
    · obtain ⟨hle, h⟩ := UInv.drain (o := o) (UInv.stepPending
        (inv.uinv.grew (st' := { st with pending := rest }) (grew_of_eq rfl rfl) ⟨inv.keys.dyn, inv.keys.deferred⟩) hwo o r)
      have hlt := LexLt.of_le_of_lt hle (stepPending_decreases w o U hwo st r rest hp inv)
      exact ⟨h, hlt.le, fun _ => hlt⟩
  exact ⟨h.1.tinv (inv.pend.iter w o) (inv.dynInv.iter w o), h.2⟩

theorem lexLt_wf : WellFounded LexLt :=
  Subrelation.wf (fun h => Prod.lex_def.mpr (h.imp_right (And.imp_right Prod.lex_def.mpr)))
    (Prod.lex Nat.lt_wfRel (Prod.lex Nat.lt_wfRel Nat.lt_wfRel)).wf

theorem finishes_of_iter (w : World) (o : Opts) (st : St)
    (h : quiescent st = true ∨ ∃ fuel out, runLoop w o fuel (iter w o st) = some out) :
    ∃ fuel out, runLoop w o fuel st = some out := by
  by_cases hq : quiescent st = true
  · exact ⟨1, st, by simp [runLoop, hq]⟩
  · obtain ⟨fuel, out, hr⟩ := h.resolve_left hq
    exact ⟨fuel + 1, out, by simpa [runLoop, hq] using hr⟩

theorem runLoop_terminates (w : World) (o : Opts) (U : List Spec) (hwo : WorldOk w U) (st : St) :
    TInv w U st → ∃ fuel out, runLoop w o fuel st = some out := by
  refine (InvImage.wf (mu w U) lexLt_wf).induction
    (C := fun st => TInv w U st → ∃ fuel out, runLoop w o fuel st = some out) st fun st ih inv => ?_
  -- the loop finishes from a state not above `st` that has a request queued or is finished
  have ready : ∀ s, TInv w U s → LexLe (mu w U s) (mu w U st) → s.pending ≠ [] ∨ quiescent s = true →
      ∃ fuel out, runLoop w o fuel s = some out := fun s hs hle h =>
    have ⟨inv', _, lt⟩ := iter_spec w o U hwo s hs
    finishes_of_iter w o s (h.symm.imp_right fun h => ih _ (.of_lt_of_le (lt h) hle) inv')
  by_cases hp : st.pending = []
  · -- nothing queued: such a state comes after at most two idle iterations
    obtain ⟨inv1, le1, -⟩ := iter_spec w o U hwo st inv
    obtain ⟨inv2, le2, -⟩ := iter_spec w o U hwo _ inv1
    refine finishes_of_iter w o st (.inr ?_)
    rcases or_assoc.mpr (idle_at_most_twice w o st inv.pend inv.dynInv hp) with h | h
    · exact ready _ inv1 le1 h
    · exact finishes_of_iter w o _ (.inr (ready _ inv2 (le2.trans le1) h))
  · exact ready st inv (.refl _) (.inl hp)

/-- `U` is any duplicate-free list that holds what the roots and configured imports name (`hU`), what the analyses
mention and where the world sends a specifier (`WorldOk.parsed`, `.finalIn`, `.nodup`); `universeOf` is such a list -/
theorem build_terminates (w : World) (o : Opts) (U : List Spec) (hwo : WorldOk w U) (roots : List Spec)
    (imports : List (Spec × List Dep)) (hU : ∀ s ∈ initTargets roots (imports.flatMap (·.2)), s ∈ U) :
    ∃ fuel out, build w o roots imports fuel = some out := by
  have nil : ∀ {α} {P : α → Prop}, ∀ p ∈ ([] : List α), P p := fun _ h => nomatch h
  have hv := visits_initLoads w o roots (imports.flatMap (·.2)) { inDyn := o.isDynamic }
  simp only [build_eq]
  exact runLoop_terminates w o U hwo _ ((hv.uinv hU ⟨⟨nil, nil⟩, nil, nil, ⟨nil, nil⟩⟩).2.tinv
    (hv.pendInv fun s a hs => nomatch hs) (hv.dynInv fun _ => rfl))

def respTargets : Resp → List Spec
  | .redirect to => [to]
  | .module f => [f]
  | .external f => [f]
  | _ => []

def universeOf (w : World) (roots : List Spec) (imports : List (Spec × List Dep)) : List Spec :=
  fresh (initTargets roots (imports.flatMap (·.2)) ++
    w.content.flatMap (fun c => parsedTargets c.2.parsed) ++ w.resp.flatMap (fun r => respTargets r.2)) []

theorem mem_universeOf {w : World} {roots : List Spec} {imports : List (Spec × List Dep)} {x : Spec} :
    x ∈ universeOf w roots imports ↔ x ∈ initTargets roots (imports.flatMap (·.2)) ∨
      (∃ c ∈ w.content, x ∈ parsedTargets c.2.parsed) ∨ ∃ r ∈ w.resp, x ∈ respTargets r.2 := by
  rw [universeOf, mem_fresh, List.mem_append, List.mem_append, List.mem_flatMap, List.mem_flatMap, or_assoc]
  exact and_iff_left List.not_mem_nil

theorem parsedIn_universe (w : World) (roots : List Spec) (imports : List (Spec × List Dep)) (s : Spec) :
    ParsedIn (universeOf w roots imports) (w.contentOf s).parsed := by
  rw [parsedIn_iff]
  intro x hx
  unfold World.contentOf at hx
  cases hl : w.content.lookup s with
  | none => rw [hl] at hx; cases hx
  | some c =>
    rw [hl] at hx
    exact mem_universeOf.mpr (.inr (.inl ⟨(s, c), mem_of_lookup_eq_some hl, hx⟩))

theorem finalIn_universe (w : World) (roots : List Spec) (imports : List (Spec × List Dep)) (s : Spec)
    (h : finalOf w s ≠ s) : finalOf w s ∈ universeOf w roots imports := by
  unfold finalOf World.respOf at h ⊢
  cases hl : w.resp.lookup s with
  | none => simp [hl] at h
  | some r =>
    simp only [hl, Option.getD_some] at h ⊢
    refine mem_universeOf.mpr (.inr (.inr ⟨(s, r), mem_of_lookup_eq_some hl, ?_⟩))
    cases r <;> first | exact List.mem_singleton.mpr rfl | exact absurd rfl h

end DG.Build
