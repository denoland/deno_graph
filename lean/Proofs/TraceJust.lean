import Proofs.Trace
/-! Why a task is there: `Just` is the least set of tasks that holds the entry requests and is closed
under `asks`.  Along a run every task is justified and every retained declaration was processed
(`RunInv`); `Traced` is what holds of the state of a finished run. -/
namespace DG.Trace

/-- a task the statement calls for: the exports of an entrypoint, and whatever those lead to -/
inductive Just (w : World) (entries : List Nat) : Task → Prop
  | entry {m : Nat} : m ∈ entries → Just w entries (.reqAll m true)
  | allDecl {m : Nat} {wd : Bool} {d : Decl} : Just w entries (.reqAll m wd) → d ∈ (w.mod m).decls →
      exportedFor wd d = true → Just w entries (.decl m d.name)
  | allLocal {m : Nat} {wd : Bool} {p : Nat × Nat} : Just w entries (.reqAll m wd) → p ∈ (w.mod m).exportLocal →
      keepL wd p = true → Just w entries (.local m p.2)
  | allFrom {m : Nat} {wd : Bool} {p : Nat × Nat × Nat} : Just w entries (.reqAll m wd) → p ∈ (w.mod m).exportFrom →
      keepF wd p = true → Just w entries (.reqName p.2.1 p.2.2)
  | allStar {m x : Nat} {wd : Bool} : Just w entries (.reqAll m wd) → x ∈ (w.mod m).stars →
      Just w entries (.reqAll x false)
  | nameDecl {m n : Nat} {d : Decl} : Just w entries (.reqName m n) → ownExport (w.mod m) n = some d →
      Just w entries (.decl m d.name)
  | nameLocal {m n : Nat} {p : Nat × Nat} : Just w entries (.reqName m n) → ownExport (w.mod m) n = none →
      findLocalExport (w.mod m) n = some p → Just w entries (.local m p.2)
  | nameFrom {m n : Nat} {p : Nat × Nat × Nat} : Just w entries (.reqName m n) → ownExport (w.mod m) n = none →
      findLocalExport (w.mod m) n = none → findFrom (w.mod m) n = some p → Just w entries (.reqName p.2.1 p.2.2)
  | nameStar {m n d : Nat} {edges : List (Nat × Nat)} : Just w entries (.reqName m n) → ownExport (w.mod m) n = none →
      findLocalExport (w.mod m) n = none → findFrom (w.mod m) n = none →
      findPath w m n = some (edges, d) → Just w entries (.reqName d n)
  | localDecl {m l : Nat} {d : Decl} : Just w entries (.local m l) → findDecl (w.mod m) l = some d →
      Just w entries (.decl m d.name)
  | localImport {m l : Nat} {p : Nat × Nat × Nat} : Just w entries (.local m l) → findDecl (w.mod m) l = none →
      findImport (w.mod m) l = some p → Just w entries (.reqName p.2.1 p.2.2)
  | declRef {m name r : Nat} {d : Decl} : Just w entries (.decl m name) → findDecl (w.mod m) name = some d →
      r ∈ d.refs → Just w entries (.local m r)
  | declQRef {m name : Nat} {q : Nat × Nat} {d : Decl} : Just w entries (.decl m name) →
      findDecl (w.mod m) name = some d → q ∈ d.qrefs → Just w entries (.qual m q.1 q.2)
  | localNs {m l : Nat} {p : Nat × Nat} : Just w entries (.local m l) → findDecl (w.mod m) l = none →
      findImport (w.mod m) l = none → findNsImport (w.mod m) l = some p → Just w entries (.reqAll p.2 false)
  | qualNs {m l x : Nat} {p : Nat × Nat} : Just w entries (.qual m l x) → findNsImport (w.mod m) l = some p →
      Just w entries (.reqName p.2 x)
  | qualLocal {m l x : Nat} : Just w entries (.qual m l x) → findNsImport (w.mod m) l = none →
      Just w entries (.local m l)

open List in
theorem just_of_asks {w : World} {entries : List Nat} {t : Task} (ht : Just w entries t) :
    ∀ u ∈ (asks w t).work, Just w entries u := by
  fun_cases asks w t with
  | case1 => -- `reqAll`
    exact forall_mem_append.2 ⟨forall_mem_append.2 ⟨forall_mem_append.2
      ⟨forall_mem_map.2 (forall_mem_filter.2 fun _ hd he => .allDecl ht hd he),
       forall_mem_map.2 (forall_mem_filter.2 fun _ hp hk => .allLocal ht hp hk)⟩,
       forall_mem_map.2 (forall_mem_filter.2 fun _ hp hk => .allFrom ht hp hk)⟩,
       forall_mem_map.2 fun _ hx => .allStar ht hx⟩
  -- `reqName`
  | case2 => exact forall_mem_singleton.2 (.nameDecl ht ‹_›)
  | case3 => exact forall_mem_singleton.2 (.nameLocal ht ‹_› ‹_›)
  | case4 => exact forall_mem_singleton.2 (.nameFrom ht ‹_› ‹_› ‹_›)
  | case5 => exact forall_mem_singleton.2 (.nameStar ht ‹_› ‹_› ‹_› ‹_›)
  | case6 => exact forall_mem_nil _ -- no such name
  -- `local`
  | case7 => exact forall_mem_singleton.2 (.localDecl ht ‹_›)
  | case8 => exact forall_mem_singleton.2 (.localImport ht ‹_› ‹_›)
  | case9 => exact forall_mem_singleton.2 (.localNs ht ‹_› ‹_› ‹_›)
  | case10 => exact forall_mem_nil _ -- unknown name
  -- `qual`
  | case11 => exact forall_mem_singleton.2 (.qualNs ht ‹_›)
  | case12 => exact forall_mem_singleton.2 (.qualLocal ht ‹_›)
  -- `decl`
  | case13 => exact forall_mem_append.2 ⟨forall_mem_map.2 fun _ hr => .declRef ht ‹_› hr,
      forall_mem_map.2 fun _ hq => .declQRef ht ‹_› hq⟩
  | case14 => exact forall_mem_nil _ -- no such declaration

open List in
theorem just_least {w : World} {entries : List Nat} {P : Task → Prop} (entry : ∀ m ∈ entries, P (.reqAll m true))
    (closed : ∀ t, P t → ∀ u ∈ (asks w t).work, P u) {t : Task} (ht : Just w entries t) : P t := by
  induction ht with
  | entry hm => exact entry _ hm
  | allDecl _ hd he ih =>
    exact closed _ ih _ (mem_append_left _ (mem_append_left _ (mem_append_left _
      (mem_map_of_mem (mem_filter.2 ⟨hd, he⟩)))))
  | allLocal _ hp hk ih =>
    exact closed _ ih _ (mem_append_left _ (mem_append_left _ (mem_append_right _
      (mem_map_of_mem (mem_filter.2 ⟨hp, hk⟩)))))
  | allFrom _ hp hk ih =>
    exact closed _ ih _ (mem_append_left _ (mem_append_right _ (mem_map_of_mem (mem_filter.2 ⟨hp, hk⟩))))
  | allStar _ hx ih => exact closed _ ih _ (mem_append_right _ (mem_map_of_mem hx))
  | declRef _ hd hr ih => exact closed _ ih _ (by simp only [asks, hd]; exact mem_append_left _ (mem_map_of_mem hr))
  | declQRef _ hd hq ih => exact closed _ ih _ (by simp only [asks, hd]; exact mem_append_right _ (mem_map_of_mem hq))
  -- every other rule: under its hypotheses `asks` is the singleton of the task it concludes
  | _ => exact closed _ ‹_› _ (by simp only [asks, *, mem_singleton])

theorem of_mem_asks_decls {w : World} {t : Task} {x : Nat × Nat} :
    x ∈ (asks w t).decls → t = .decl x.1 x.2 ∧ (findDecl (w.mod x.1) x.2).isSome = true := by
  -- only leaf 13 retains a declaration: a `decl` task that finds it
  fun_cases asks w t with
  | case13 _ _ _ hd => intro hx; cases List.mem_singleton.1 hx; exact ⟨rfl, by rw [hd]; rfl⟩
  | _ => intro hx; cases hx

structure RunInv (w : World) (entries : List Nat) (s : State) : Prop where
  adds : Inv w s
  just : ∀ t, Sched s t → Just w entries t
  declsDone : ∀ x ∈ s.decls, Task.decl x.1 x.2 ∈ s.done ∧ (findDecl (w.mod x.1) x.2).isSome = true
  entries : ∀ m ∈ entries, Sched s (.reqAll m true)

theorem runInv_step {w : World} {entries : List Nat} {s : State} {t : Task} {rest : List Task}
    (hw : s.work = t :: rest) (hi : RunInv w entries s) : RunInv w entries (step w { s with work := rest } t) := by
  have ht : Just w entries t := hi.just t (.inr (hw ▸ List.mem_cons_self))
  have hpop : ∀ u, Sched { s with work := rest } u → Just w entries u :=
    fun u hu => hi.just u (hu.imp id fun h => hw ▸ List.mem_cons_of_mem _ h)
  have e := step_eq w { s with work := rest } t
  split at e <;>
    refine ⟨inv_step hw hi.adds, ?_, ?_, fun m hm => (le_pop_step w hw).sched _ (hi.entries m hm)⟩ <;> rw [e]
  -- `t` was processed before: only the queue changes
  · exact hpop
  · exact hi.declsDone
  -- `t` is new
  · rintro u (hu | hu) <;> rcases List.mem_append.mp hu with hu | hu
    · exact hpop u (.inl hu)
    · cases List.mem_singleton.mp hu; exact ht
    · exact hpop u (.inr hu)
    · exact just_of_asks ht u hu
  · intro x hx
    rcases mem_insAll.mp hx with hx | hx
    · exact ⟨List.mem_append_left _ (hi.declsDone x hx).1, (hi.declsDone x hx).2⟩
    · obtain ⟨rfl, h⟩ := of_mem_asks_decls hx
      exact ⟨List.mem_append_right _ (List.mem_singleton_self _), h⟩

structure Traced (w : World) (entries : List Nat) (s : State) : Prop extends RunInv w entries s where
  work_nil : s.work = []

theorem trace_inv {w : World} {entries : List Nat} {fuel : Nat} {s : State} (h : trace w entries fuel = some s) :
    Traced w entries s := by
  refine (run_induct runInv_step ?_ h).elim Traced.mk
  refine ⟨fun _ h => (nomatch h), ?_, fun _ h => (nomatch h), fun m hm => .inr (List.mem_map_of_mem hm)⟩
  rintro t (ht | ht)
  · cases ht
  · obtain ⟨m, hm, rfl⟩ := List.mem_map.mp ht
    exact .entry hm

theorem Traced.done_of_sched {w : World} {entries : List Nat} {s : State} (T : Traced w entries s) {t : Task}
    (ht : Sched s t) : t ∈ s.done :=
  ht.elim id fun hw => nomatch T.work_nil ▸ hw

theorem Traced.served {w : World} {entries : List Nat} {s : State} (T : Traced w entries s) {t : Task}
    (ht : t ∈ s.done) : Served w s t :=
  served_of_adds (T.adds t ht)

end DG.Trace
