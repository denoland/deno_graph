import DG.Trace
import Proofs.OrdSet
/-! The tracer as a closure computation.  Processing a task merges into the state what the task
`adds`: the items it retains and the tasks it asks for, both a function of the package and the task
alone.  The invariant: whatever a processed task adds is in the state, retained or scheduled
(processed or waiting).  At completion nothing waits, so everything asked for was processed. -/
namespace DG.Trace

theorem mem_insAll {α : Type} [BEq α] [LawfulBEq α] {xs l : List α} {y : α} :
    y ∈ insAll xs l ↔ y ∈ l ∨ y ∈ xs :=
  mem_foldl_insEnd

def Sched (s : State) (t : Task) : Prop := t ∈ s.done ∨ t ∈ s.work

/-- what processing a task has established, in the form the statements of C09 and C11 use.  `asks` below
says the same as data and is what the proofs work with; the two meet once, in `served_of_adds`. -/
def Served (w : World) (s : State) : Task → Prop
  | .decl m name =>
    ∀ d, findDecl (w.mod m) name = some d → (m, name) ∈ s.decls ∧ (∀ r ∈ d.refs, Sched s (.local m r)) ∧
      ∀ q ∈ d.qrefs, Sched s (.qual m q.1 q.2)
  | .local m l =>
    match findDecl (w.mod m) l with
    | some d => Sched s (.decl m d.name)
    | none =>
      match findImport (w.mod m) l with
      | some p => (m, l) ∈ s.imports ∧ Sched s (.reqName p.2.1 p.2.2)
      | none =>
        match findNsImport (w.mod m) l with
        | some p => (m, l) ∈ s.imports ∧ Sched s (.reqAll p.2 false)
        | none => True
  | .qual m l x =>
    match findNsImport (w.mod m) l with
    | some p => (m, l) ∈ s.imports ∧ Sched s (.reqName p.2 x)
    | none => Sched s (.local m l)
  | .reqName m n =>
    m ∈ s.modules ∧
    match ownExport (w.mod m) n with
    | some d => Sched s (.decl m d.name)
    | none =>
      match findLocalExport (w.mod m) n with
      | some p => (m, n) ∈ s.exportLocal ∧ Sched s (.local m p.2)
      | none =>
        match findFrom (w.mod m) n with
        | some p => (m, n) ∈ s.exportFrom ∧ Sched s (.reqName p.2.1 p.2.2)
        | none =>
          match findPath w m n with
          | some (edges, d) => (∀ e ∈ edges, e ∈ s.stars) ∧ Sched s (.reqName d n)
          | none => ∀ x ∈ (w.mod m).stars, (m, x) ∈ s.stars
  | .reqAll m wd =>
    m ∈ s.modules ∧
    (∀ d ∈ (w.mod m).decls, exportedFor wd d = true → Sched s (.decl m d.name)) ∧
    (∀ p ∈ (w.mod m).exportLocal, keepL wd p = true → (m, p.1) ∈ s.exportLocal ∧ Sched s (.local m p.2)) ∧
    (∀ p ∈ (w.mod m).exportFrom, keepF wd p = true → (m, p.1) ∈ s.exportFrom ∧ Sched s (.reqName p.2.1 p.2.2)) ∧
    (∀ x ∈ (w.mod m).stars, (m, x) ∈ s.stars ∧ Sched s (.reqAll x false))

structure Le (s s' : State) : Prop where
  decls : ∀ x ∈ s.decls, x ∈ s'.decls
  imports : ∀ x ∈ s.imports, x ∈ s'.imports
  exportFrom : ∀ x ∈ s.exportFrom, x ∈ s'.exportFrom
  stars : ∀ x ∈ s.stars, x ∈ s'.stars
  exportLocal : ∀ x ∈ s.exportLocal, x ∈ s'.exportLocal
  modules : ∀ x ∈ s.modules, x ∈ s'.modules
  sched : ∀ t, Sched s t → Sched s' t

theorem Le.refl (s : State) : Le s s :=
  ⟨fun _ h => h, fun _ h => h, fun _ h => h, fun _ h => h, fun _ h => h, fun _ h => h, fun _ h => h⟩

theorem Le.trans {a b c : State} (h1 : Le a b) (h2 : Le b c) : Le a c :=
  ⟨fun x h => h2.decls x (h1.decls x h), fun x h => h2.imports x (h1.imports x h),
   fun x h => h2.exportFrom x (h1.exportFrom x h), fun x h => h2.stars x (h1.stars x h),
   fun x h => h2.exportLocal x (h1.exportLocal x h), fun x h => h2.modules x (h1.modules x h),
   fun t h => h2.sched t (h1.sched t h)⟩

/-- what a task retains and, as `work`, the tasks it asks for -/
def asks (w : World) : Task → State
  | .reqAll m wd =>
    let md := w.mod m
    { modules := [m],
      exportLocal := (md.exportLocal.filter (keepL wd)).map fun p => (m, p.1),
      exportFrom := (md.exportFrom.filter (keepF wd)).map fun p => (m, p.1),
      stars := md.stars.map fun x => (m, x),
      work := ((md.decls.filter (exportedFor wd)).map fun d => Task.decl m d.name) ++
        ((md.exportLocal.filter (keepL wd)).map fun p => Task.local m p.2) ++
        ((md.exportFrom.filter (keepF wd)).map fun p => Task.reqName p.2.1 p.2.2) ++
        md.stars.map (fun x => Task.reqAll x false) }
  | .reqName m n =>
    match ownExport (w.mod m) n with
    | some d => { modules := [m], work := [.decl m d.name] }
    | none =>
      match findLocalExport (w.mod m) n with
      | some p => { modules := [m], exportLocal := [(m, n)], work := [.local m p.2] }
      | none =>
        match findFrom (w.mod m) n with
        | some p => { modules := [m], exportFrom := [(m, n)], work := [.reqName p.2.1 p.2.2] }
        | none =>
          match findPath w m n with
          | some (edges, d) => { modules := m :: edges.map (·.2), stars := edges, work := [.reqName d n] }
          | none => { modules := [m], stars := (w.mod m).stars.map fun x => (m, x) }
  | .local m l =>
    match findDecl (w.mod m) l with
    | some d => { work := [.decl m d.name] }
    | none =>
      match findImport (w.mod m) l with
      | some p => { imports := [(m, l)], work := [.reqName p.2.1 p.2.2] }
      | none =>
        match findNsImport (w.mod m) l with
        | some p => { imports := [(m, l)], work := [.reqAll p.2 false] }
        | none => {}
  | .qual m l x =>
    match findNsImport (w.mod m) l with
    | some p => { imports := [(m, l)], work := [.reqName p.2 x] }
    | none => { work := [.local m l] }
  | .decl m name =>
    match findDecl (w.mod m) name with
    | some d => { decls := [(m, name)],
                  work := (d.refs.map fun r => Task.local m r) ++ d.qrefs.map fun q => Task.qual m q.1 q.2 }
    | none => {}

def adds (w : World) (t : Task) : State := { asks w t with done := [t] }

def State.add (s δ : State) : State :=
  { decls := insAll δ.decls s.decls, imports := insAll δ.imports s.imports,
    exportFrom := insAll δ.exportFrom s.exportFrom, stars := insAll δ.stars s.stars,
    exportLocal := insAll δ.exportLocal s.exportLocal, modules := insAll δ.modules s.modules,
    done := s.done ++ δ.done, work := s.work ++ δ.work }

theorem step_eq (w : World) (s : State) (t : Task) :
    step w s t = if s.done.contains t then s else s.add (adds w t) := by
  unfold step
  split
  · rfl
  · unfold adds
    -- `+zetaDelta` for the `let md := w.mod m` of `asks`
    fun_cases asks w t <;>
      simp +zetaDelta only [stepReqAll, stepReqName, stepLocal, stepDecl, stepQual, State.add, insAll, List.foldl,
        List.append_nil, List.append_assoc, *]

theorem le_add_left (s δ : State) : Le s (s.add δ) :=
  have old {α} [BEq α] [LawfulBEq α] {xs l : List α} (x : α) (h : x ∈ l) : x ∈ insAll xs l := mem_insAll.mpr (.inl h)
  ⟨old, old, old, old, old, old, fun _ h => h.imp (List.mem_append_left _) (List.mem_append_left _)⟩

theorem le_add_right (s δ : State) : Le δ (s.add δ) :=
  have new {α} [BEq α] [LawfulBEq α] {xs l : List α} (x : α) (h : x ∈ xs) : x ∈ insAll xs l := mem_insAll.mpr (.inr h)
  ⟨new, new, new, new, new, new, fun _ h => h.imp (List.mem_append_right _) (List.mem_append_right _)⟩

theorem Le.work {δ s : State} (h : Le δ s) {u : Task} (hu : u ∈ δ.work) : Sched s u := h.sched u (.inr hu)

theorem served_of_adds {w : World} {s : State} {t : Task} : Le (adds w t) s → Served w s t := by
  unfold adds
  -- `Served` has the case tree of `asks`: the conditions of a leaf (`*`) reduce it to its leaf at the same place
  fun_cases asks w t <;> intro h <;> simp only [Served, *]
  · -- `reqAll`
    have hw : ∀ u ∈ _, Sched s u := fun _ => h.work
    simp only [List.forall_mem_append, List.forall_mem_map, List.forall_mem_filter] at hw
    obtain ⟨⟨⟨hdecls, hlocals⟩, hfroms⟩, hstars⟩ := hw
    have keep : ∀ {α β} {f : α → β} {q : α → Bool} {l : List α} {x : α}, x ∈ l → q x = true →
        f x ∈ (l.filter q).map f := fun hx hq => List.mem_map_of_mem (List.mem_filter.mpr ⟨hx, hq⟩)
    exact ⟨h.modules _ List.mem_cons_self, hdecls,
      fun p hp hk => ⟨h.exportLocal _ (keep hp hk), hlocals p hp hk⟩,
      fun p hp hk => ⟨h.exportFrom _ (keep hp hk), hfroms p hp hk⟩,
      fun x hx => ⟨h.stars _ (List.mem_map_of_mem hx), hstars x hx⟩⟩
  -- `reqName`
  · exact ⟨h.modules _ List.mem_cons_self, h.work List.mem_cons_self⟩
  · exact ⟨h.modules _ List.mem_cons_self, h.exportLocal _ List.mem_cons_self, h.work List.mem_cons_self⟩
  · exact ⟨h.modules _ List.mem_cons_self, h.exportFrom _ List.mem_cons_self, h.work List.mem_cons_self⟩
  · exact ⟨h.modules _ List.mem_cons_self, h.stars, h.work List.mem_cons_self⟩
  · exact ⟨h.modules _ List.mem_cons_self, fun x hx => h.stars _ (List.mem_map_of_mem hx)⟩
  -- `local` (the leaf of an unknown name is closed by `simp`)
  · exact h.work List.mem_cons_self
  · exact ⟨h.imports _ List.mem_cons_self, h.work List.mem_cons_self⟩
  · exact ⟨h.imports _ List.mem_cons_self, h.work List.mem_cons_self⟩
  -- `qual`
  · exact ⟨h.imports _ List.mem_cons_self, h.work List.mem_cons_self⟩
  · exact h.work List.mem_cons_self
  -- `decl`
  · rintro d ⟨⟩
    exact ⟨h.decls _ List.mem_cons_self, fun r hr => h.work (List.mem_append_left _ (List.mem_map_of_mem hr)),
      fun q hq => h.work (List.mem_append_right _ (List.mem_map_of_mem hq))⟩
  · nofun

theorem le_step (w : World) (s : State) (t : Task) : Le s (step w s t) := by
  rw [step_eq]
  split
  · exact Le.refl s
  · exact le_add_left _ _

theorem mem_step_done (w : World) (s : State) (t : Task) : t ∈ (step w s t).done := by
  rw [step_eq]
  split
  · rename_i hc
    simpa using hc
  · exact List.mem_append_right _ List.mem_cons_self

theorem adds_le_step (w : World) {s : State} {t : Task} (h : s.done.contains t = false) :
    Le (adds w t) (step w s t) := by
  rw [step_eq, h]
  exact le_add_right _ _

theorem le_pop_step (w : World) {s : State} {t : Task} {rest : List Task} (hw : s.work = t :: rest) :
    Le s (step w { s with work := rest } t) :=
  have h := le_step w { s with work := rest } t
  ⟨h.decls, h.imports, h.exportFrom, h.stars, h.exportLocal, h.modules, fun u hu => by
    rcases hu with hu | hu
    · exact h.sched u (.inl hu)
    · rcases List.mem_cons.mp (hw ▸ hu) with rfl | hu
      · exact .inl (mem_step_done w _ u)
      · exact h.sched u (.inr hu)⟩

def Inv (w : World) (s : State) : Prop := ∀ t ∈ s.done, Le (adds w t) s

theorem inv_step {w : World} {s : State} {t : Task} {rest : List Task} (hw : s.work = t :: rest)
    (hi : Inv w s) : Inv w (step w { s with work := rest } t) := by
  have hle := le_pop_step w hw
  intro u hu
  rw [step_eq] at hu
  split at hu
  · exact (hi u hu).trans hle
  · rename_i hc
    rcases List.mem_append.mp hu with hu | hu
    · exact (hi u hu).trans hle
    · cases List.mem_singleton.mp hu
      exact adds_le_step w (Bool.eq_false_iff.mpr hc)

theorem run_induct {w : World} {P : State → Prop}
    (hstep : ∀ {s t rest}, s.work = t :: rest → P s → P (step w { s with work := rest } t))
    {f : Nat} {s s' : State} : P s → run w f s = some s' → P s' ∧ s'.work = [] := by
  fun_induction run w f s <;> intro hp h
  · cases h; exact ⟨hp, List.isEmpty_iff.1 ‹_›⟩
  · cases h
  · cases h; exact ⟨hp, ‹_›⟩
  · next ih => exact ih (hstep ‹_› hp) h

/-- a chain of `export *` edges from `x` to `d` -/
def IsStarPath (w : World) : Nat → List (Nat × Nat) → Nat → Prop
  | x, [], d => x = d
  | x, (a, b) :: rest, d => a = x ∧ b ∈ (w.mod x).stars ∧ IsStarPath w b rest d

theorem findName_spec (w : World) : ∀ (f : Nat) (vis : List Nat) (x n : Nat) (p : List (Nat × Nat)) (d : Nat),
    (findName w f vis x n).2 = some (p, d) → IsStarPath w x p d ∧ ownsName (w.mod d) n = true := by
  intro f vis x n
  fun_induction findName w f vis x n
  · nofun
  · nofun
  · next hown => rintro p d ⟨⟩; exact ⟨rfl, hown⟩
  · next f vis x n _ _ ih =>
    -- the first `export *` target through which the name is found extends the path by one edge
    refine List.foldlRecOn (motive := fun (acc : List Nat × Option (List (Nat × Nat) × Nat)) =>
      ∀ p d, acc.2 = some (p, d) → IsStarPath w x p d ∧ ownsName (w.mod d) n = true) _ _
      nofun fun acc hacc s hs p d hp => ?_
    split at hp
    · exact hacc p d hp
    · obtain ⟨⟨p', d'⟩, hr, he⟩ := Option.map_eq_some_iff.mp hp
      cases he
      exact ⟨⟨rfl, hs, (ih acc s p' d' hr).1⟩, (ih acc s p' d' hr).2⟩

theorem findPath_spec {w : World} {m n : Nat} {p : List (Nat × Nat)} {d : Nat} (h : findPath w m n = some (p, d)) :
    IsStarPath w m p d ∧ ownsName (w.mod d) n = true := by
  unfold findPath at h
  split at h
  · cases h
  · exact findName_spec w _ _ m n p d h

end DG.Trace
