import DG.Prune
import Proofs.BuildOps
/-!
# `prune_types`: the worklist computes exactly the code-reachable part

`PReach` is the statement's reachability: roots; the target of a redirect of a reachable specifier; the code targets
(and the source-map target) of a reachable entry.  An iteration appends what is new among `nexts`; under the loop
invariant `PInv` the loop ends within `pruneFuel` (every append uses up an unseen member of `univ`) with `seen` exactly
`PReach`, the entries seen in pruned form and all others untouched.
-/
namespace DG.Prune
open DG DG.Build Tables

theorem pruneDep_idem (d : BDep) : pruneDep (pruneDep d) = pruneDep d := rfl

theorem depCodeTargets_prune (deps : List BDep) :
    depCodeTargets (deps.map pruneDep) = depCodeTargets deps :=
  List.filterMap_map

theorem slotTargets_pruneSlot (sl : BSlot) : slotTargets (pruneSlot sl) = slotTargets sl := by
  fun_cases pruneSlot sl
  · exact congrArg (_ ++ ·) (depCodeTargets_prune _)
  · exact depCodeTargets_prune _
  · rfl

theorem pruneSlot_idem (sl : BSlot) : pruneSlot (pruneSlot sl) = pruneSlot sl := by
  rcases sl with (_ | _ | _ | _ | _) | _ | _ <;> simp [pruneSlot, pruneDep]

theorem mem_foldl_addSeen {ts seen : List Spec} {x : Spec} :
    x ∈ ts.foldl addSeen seen ↔ x ∈ seen ∨ x ∈ ts :=
  mem_foldl_insEnd

theorem foldl_addSeen (ts seen : List Spec) : ts.foldl addSeen seen = seen ++ fresh ts seen :=
  foldl_insEnd ts seen

def nexts (redirects : List (Spec × Spec)) (slots : List (Spec × BSlot)) (s : Spec) : List Spec :=
  (redirects.lookup s).toList ++ ((slots.lookup s).map slotTargets).getD []

theorem mem_nexts {redirects : List (Spec × Spec)} {slots : List (Spec × BSlot)} {s t : Spec} :
    t ∈ nexts redirects slots s ↔
      redirects.lookup s = some t ∨ ∃ sl, slots.lookup s = some sl ∧ t ∈ slotTargets sl := by
  rw [nexts, List.mem_append, Option.mem_toList]
  cases slots.lookup s <;> simp

def slotsAfter (p : PState) (s : Spec) : List (Spec × BSlot) :=
  match p.slots.lookup s with
  | some sl => upsert p.slots s (pruneSlot sl)
  | none => p.slots

/-- one iteration, whether or not `s` is a redirect source: this is where the regenerated table
`pruneVisitsEntryOnSource` (finding F36) enters.  With the value the repaired code gives, the entry under a redirect
source is visited too; `PInv`, `pruneLoop_final` and every `pruned_*` theorem of C17 rest on this equation. -/
theorem pruneIter_eq (redirects : List (Spec × Spec)) (p : PState) (s : Spec) :
    pruneIter redirects p s =
      { slots := slotsAfter p s, seen := (nexts redirects p.slots s).foldl addSeen p.seen,
        idx := p.idx + 1 } := by
  simp only [pruneIter, visitEntry, slotsAfter, nexts, pruneVisitsEntryOnSource, if_true]
  cases redirects.lookup s <;> cases p.slots.lookup s <;> rfl

theorem lookup_slotsAfter (p : PState) (s k : Spec) :
    (slotsAfter p s).lookup k = if k = s then (p.slots.lookup s).map pruneSlot else p.slots.lookup k := by
  unfold slotsAfter
  cases h : p.slots.lookup s with
  | none => exact (ite_eq_right_iff.mpr fun hk => (hk ▸ h).symm).symm
  | some sl => exact lookup_upsert ..

variable (roots : List Spec) (slots0 : List (Spec × BSlot)) (redirects : List (Spec × Spec))

inductive PReach : Spec → Prop where
  | root {r} : r ∈ roots → PReach r
  | redirect {s t} : PReach s → redirects.lookup s = some t → PReach t
  | edge {s sl t} : PReach s → slots0.lookup s = some sl → t ∈ slotTargets sl → PReach t

/-- everything `PReach` can mention (`pruneFuel` is its length plus one) -/
def univ : List Spec :=
  roots ++ redirects.map (·.2) ++ slots0.flatMap fun (_, sl) => slotTargets sl

theorem nexts_sub_univ (s t : Spec) (h : t ∈ nexts redirects slots0 s) : t ∈ univ roots slots0 redirects := by
  rcases mem_nexts.mp h with h | ⟨sl, h1, h2⟩
  · exact List.mem_append_left _ (List.mem_append_right _ (List.mem_map.mpr ⟨_, mem_of_lookup_eq_some h, rfl⟩))
  · exact List.mem_append_right _ (List.mem_flatMap.mpr ⟨_, mem_of_lookup_eq_some h1, h2⟩)

/-- `p.seen.take p.idx` are the specifiers processed so far -/
structure PInv (p : PState) : Prop where
  sound : ∀ x ∈ p.seen, PReach roots slots0 redirects x
  roots : ∀ r ∈ roots, r ∈ p.seen
  closed : ∀ s ∈ p.seen.take p.idx, ∀ t ∈ nexts redirects slots0 s, t ∈ p.seen
  /-- pruned where processed, untouched elsewhere -/
  vis : ∀ k, p.slots.lookup k =
    (slots0.lookup k).map fun sl => if k ∈ p.seen.take p.idx then pruneSlot sl else sl

section
variable {roots slots0 redirects}

theorem PReach.next {s t : Spec} (hs : PReach roots slots0 redirects s)
    (ht : t ∈ nexts redirects slots0 s) : PReach roots slots0 redirects t := by
  rcases mem_nexts.mp ht with h | ⟨sl, h1, h2⟩
  · exact .redirect hs h
  · exact .edge hs h1 h2

theorem PInv.init : PInv roots slots0 redirects
    { slots := slots0, seen := roots.foldl addSeen [], idx := 0 } where
  sound x hx := .root ((mem_foldl_addSeen.mp hx).resolve_left (List.not_mem_nil))
  roots r hr := mem_foldl_addSeen.mpr (.inr hr)
  closed s hs := nomatch hs
  vis k := by cases slots0.lookup k <;> simp

theorem PInv.nexts_eq {p : PState} (h : PInv roots slots0 redirects p) (s : Spec) :
    nexts redirects p.slots s = nexts redirects slots0 s := by
  unfold nexts
  rw [h.vis s]
  cases slots0.lookup s with
  | none => rfl
  | some sl => simp only [Option.map_some]; split <;> simp only [slotTargets_pruneSlot]

theorem PInv.step {p : PState} (h : PInv roots slots0 redirects p) (s : Spec)
    (hs : p.seen[p.idx]? = some s) : PInv roots slots0 redirects (pruneIter redirects p s) := by
  rw [pruneIter_eq, h.nexts_eq]
  have htake : ((nexts redirects slots0 s).foldl addSeen p.seen).take (p.idx + 1) = p.seen.take p.idx ++ [s] := by
    rw [foldl_addSeen, List.take_append_of_le_length (List.getElem?_eq_some_iff.mp hs).1, List.take_add_one, hs]
    rfl
  refine ⟨fun x hx => ?sound, fun r hr => mem_foldl_addSeen.mpr (.inl (h.roots r hr)),
    fun x hx t ht => ?closed, fun k => ?vis⟩
  case sound => exact (mem_foldl_addSeen.mp hx).elim (h.sound x) (h.sound s (List.mem_of_getElem? hs)).next
  case closed =>
    rw [htake, List.mem_append, List.mem_singleton] at hx
    rcases hx with hx | rfl
    · exact mem_foldl_addSeen.mpr (.inl (h.closed x hx t ht))
    · exact mem_foldl_addSeen.mpr (.inr ht)
  case vis =>
    rw [lookup_slotsAfter, htake]
    by_cases hk : k = s
    · rw [if_pos hk, ← hk, h.vis, Option.map_map]
      refine congrArg (Option.map · _) (funext fun sl => ?_)
      -- whether or not `s` was processed before: pruning twice is pruning once
      simp only [Function.comp, apply_ite pruneSlot, pruneSlot_idem, ite_self, List.mem_append, List.mem_singleton,
        or_true, if_true]
    · rw [if_neg hk, h.vis]
      simp only [List.mem_append, List.mem_singleton, hk, or_false]

/-- given enough fuel the loop ends by exhausting the worklist, not by running out of fuel: `|seen| + |univ not yet seen|`
does not grow while the cursor moves on, so `fuel + idx` stays above it -/
theorem pruneLoop_inv (fuel : Nat) (p : PState) :
    PInv roots slots0 redirects p →
      p.seen.length + unseen (univ roots slots0 redirects) p.seen < fuel + p.idx →
      PInv roots slots0 redirects (pruneLoop redirects fuel p) ∧
      (pruneLoop redirects fuel p).seen[(pruneLoop redirects fuel p).idx]? = none := by
  fun_induction pruneLoop redirects fuel p with
  | case1 p => exact fun hp h =>  -- no fuel left: then the cursor is at the end
    ⟨hp, List.getElem?_eq_none (show p.seen.length ≤ p.idx by omega)⟩
  | case2 fuel p hs => exact fun hp _ => ⟨hp, hs⟩  -- the worklist is exhausted
  | case3 fuel p s hs ih =>  -- one iteration: what it appends is taken from the unseen part of `univ`
    intro hp hm
    have := length_fresh_add_unseen (nexts_sub_univ roots slots0 redirects s) p.seen
    refine ih (hp.step s hs) ?_
    simp only [pruneIter_eq, hp.nexts_eq, foldl_addSeen, List.length_append]
    omega

end

theorem pruneLoop_final :
    let q := pruneLoop redirects (pruneFuel roots slots0 redirects)
      { slots := slots0, seen := roots.foldl addSeen [], idx := 0 }
    (∀ x, x ∈ q.seen ↔ PReach roots slots0 redirects x) ∧
    (∀ k, q.slots.lookup k =
      (slots0.lookup k).map fun sl => if k ∈ q.seen then pruneSlot sl else sl) := by
  intro q
  obtain ⟨hinv, hend⟩ := pruneLoop_inv (pruneFuel roots slots0 redirects) _ PInv.init (by
    rw [foldl_addSeen]
    exact Nat.lt_of_le_of_lt
      (Nat.le_trans (length_fresh_add_unseen (fun x hx => List.mem_append_left _ (List.mem_append_left _ hx)) [])
        (unseen_le_length (univ roots slots0 redirects) []))
      (by simp only [univ, pruneFuel, List.length_append, List.length_map]; omega))
  have htake : q.seen.take q.idx = q.seen :=
    List.take_of_length_le (List.getElem?_eq_none_iff.mp hend)
  refine ⟨fun x => ⟨hinv.sound x, fun hx => ?_⟩, fun k => htake ▸ hinv.vis k⟩
  induction hx with
  | root hr => exact hinv.roots _ hr
  | redirect _ hr ih => exact hinv.closed _ (htake.symm ▸ ih) _ (mem_nexts.mpr (.inl hr))
  | edge _ hs ht ih => exact hinv.closed _ (htake.symm ▸ ih) _ (mem_nexts.mpr (.inr ⟨_, hs, ht⟩))

open Classical in
theorem pruneTypes_lookup (k : Spec) :
    let g := pruneTypes roots slots0 redirects (pruneFuel roots slots0 redirects)
    g.slots.lookup k = (if PReach roots slots0 redirects k then (slots0.lookup k).map pruneSlot else none) ∧
    g.redirects.lookup k = if PReach roots slots0 redirects k then redirects.lookup k else none := by
  obtain ⟨hseen, hvis⟩ := pruneLoop_final roots slots0 redirects
  simp only [pruneTypes]
  rw [lookup_filter_key (List.contains _), lookup_filter_key (List.contains _), hvis k]
  simp only [List.contains_eq_mem, decide_eq_true_eq, hseen k]
  refine ⟨?_, trivial⟩
  split
  · simp only [*]
  · rfl

end DG.Prune
