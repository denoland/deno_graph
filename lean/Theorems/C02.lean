import Theorems.C15
import Proofs.Errors
/-!
# C02 — validation fails exactly when a followed edge reaches a failure

Model: `DG/Walk.lean` (`checkResolution`, `entryErrors`, `Graph.errors`, `Graph.validate`,
`Graph.valid`), on top of the walk characterisation of C15.
-/
namespace DG.C02
open DG Tables

variable (g : Graph) (o : WalkOpts)

/-- a resolution the policy of `check_resolution` rejects, spelled from the statement -/
def BadRes (referrer : Spec) (fileText : Bool) (r : Res) : Prop :=
  match r with
  | .err _ => True
  | .none => False
  | .ok s _ =>
    (g.scheme referrer = .https ∧ g.scheme s = .http) ∨
    ((g.scheme referrer = .https ∨ g.scheme referrer = .http) ∧ g.scheme s = .file ∧ fileText = true) ∨
    (o.followDynamic = true ∧ ∃ c es, g.slot (g.resolve s) = some (.err true c es))

variable {g o} in
theorem checkResolution_isSome_iff {referrer : Spec} {types fileText : Bool} {r : Res} {dyn : Bool} :
    (checkResolution g o referrer types fileText r dyn).isSome ↔ BadRes g o referrer fileText r := by
  cases r with
  | none => exact ⟨nofun, nofun⟩
  | err c => exact ⟨fun _ => trivial, fun _ => rfl⟩
  | ok s rng =>
    -- `isSome` of the `if` ladder is the disjunction of its conditions; the third clause remains
    simp only [checkResolution, BadRes, apply_ite Option.isSome, Option.isSome_some, Option.isSome_none,
      Bool.if_true_left, Bool.if_false_right, Bool.or_eq_true, Bool.and_eq_true, decide_eq_true_eq, and_assoc]
    refine or_congr Iff.rfl (or_congr Iff.rfl (and_congr_right fun _ => ?_))
    split
    next c es hs => exact ⟨fun _ => ⟨c, es, hs⟩, fun _ => by cases dyn <;> rfl⟩
    next hn => exact ⟨nofun, fun ⟨c, es, h⟩ => absurd h (hn c es)⟩

/-- what one visited entry contributes *in place* (while it is the walk's current entry) -/
inductive InPlace (key : Spec) : Entry → Prop where
  /-- a load / parse / unsupported-module error entry (a `Missing` entry is deferred while
  dynamic imports are followed: it is reported at the import, or at the end of the walk) -/
  | errorEntry {mi c es} : ¬ (o.followDynamic = true ∧ mi = true) → InPlace key (.err mi c es)
  | typesDep {m td} : o.kind.includeTypes = true → m.typesDep = some td →
      BadRes g o key td.fileText td.res → InPlace key (.module m)
  | code {m d} : d ∈ walkDeps o key m → (o.followDynamic = true ∨ d.dyn = false) →
      BadRes g o key d.fileText d.code → InPlace key (.module m)
  | type {m d} : d ∈ walkDeps o key m → (o.followDynamic = true ∨ d.dyn = false) →
      (o.kind.includeTypes && isCheckable o key m.mediaType) = true →
      BadRes g o key d.fileText d.type → InPlace key (.module m)

/-- the statement's failure predicate for one visited entry: **every** error entry, and a module
with a rejected resolution on a selected side -/
inductive Failure (key : Spec) : Entry → Prop where
  | errorEntry {mi c es} : Failure key (.err mi c es)
  | typesDep {m td} : o.kind.includeTypes = true → m.typesDep = some td →
      BadRes g o key td.fileText td.res → Failure key (.module m)
  | code {m d} : d ∈ walkDeps o key m → (o.followDynamic = true ∨ d.dyn = false) →
      BadRes g o key d.fileText d.code → Failure key (.module m)
  | type {m d} : d ∈ walkDeps o key m → (o.followDynamic = true ∨ d.dyn = false) →
      (o.kind.includeTypes && isCheckable o key m.mediaType) = true →
      BadRes g o key d.fileText d.type → Failure key (.module m)

theorem InPlace.failure {key : Spec} {e : Entry} (h : InPlace g o key e) : Failure g o key e := by
  cases h with
  | errorEntry _ => exact .errorEntry
  | typesDep a b c => exact .typesDep a b c
  | code a b c => exact .code a b c
  | type a b c d => exact .type a b c d

theorem Failure.inPlace_or_deferred {g o} {key : Spec} {e : Entry} (h : Failure g o key e) :
    InPlace g o key e ∨ (o.followDynamic = true ∧ ∃ c es, e = .err true c es) := by
  cases h with
  | @errorEntry mi c es =>
    by_cases hc : o.followDynamic = true ∧ mi = true
    · exact Or.inr ⟨hc.1, c, es, by rw [hc.2]⟩
    · exact Or.inl (.errorEntry hc)
  | typesDep a b c => exact Or.inl (.typesDep a b c)
  | code a b c => exact Or.inl (.code a b c)
  | type a b c d => exact Or.inl (.type a b c d)

section
variable {g o}

theorem BadRes.of_check {referrer : Spec} {types fileText dyn : Bool} {r : Res} {err : ErrOut}
    (h : checkResolution g o referrer types fileText r dyn = some err) : BadRes g o referrer fileText r :=
  checkResolution_isSome_iff.mp (Option.isSome_of_eq_some h)

theorem BadRes.check {referrer : Spec} {fileText : Bool} {r : Res} (h : BadRes g o referrer fileText r)
    (types dyn : Bool) : ∃ err, checkResolution g o referrer types fileText r dyn = some err :=
  Option.isSome_iff_exists.mp (checkResolution_isSome_iff.mpr h)

theorem InPlace.of_mem_scan {β : Type} {f : Bool → Bool → Res → Bool → Option β} {key : Spec} {m : Mod} {x : β}
    (hf : ∀ {t ft r d x}, f t ft r d = some x → BadRes g o key ft r) (h : x ∈ scan o key m f) :
    InPlace g o key (.module m) := by
  rcases mem_scan.mp h with ⟨hk, td, htd, he⟩ | ⟨d, hd, hfd, he | ⟨hct, he⟩⟩
  · exact .typesDep hk htd (hf he)
  · exact .code hd hfd (hf he)
  · exact .type hd hfd hct (hf he)

end

/-- an entry contributes an error in place exactly when `InPlace` holds -/
theorem entryErrors_ne_nil_iff (key : Spec) (e : Entry) :
    entryErrors g o key e ≠ [] ↔ InPlace g o key e := by
  cases e with
  | redirect t => exact ⟨fun h => absurd rfl h, nofun⟩
  | err mi c es =>
    refine Iff.trans ?_ ⟨.errorEntry, fun | .errorEntry h => h⟩
    simp [entryErrors]
  | module m =>
    rw [entryErrors_module]
    constructor
    · intro h
      obtain ⟨err, he⟩ := List.exists_mem_of_ne_nil _ h
      exact .of_mem_scan .of_check he
    · intro h
      cases h with
      | typesDep hk htd hb =>
        obtain ⟨err, he⟩ := hb.check true false
        exact List.ne_nil_of_mem (mem_scan.mpr (.inl ⟨hk, _, htd, he⟩))
      | @code _ d hd hf hb =>
        obtain ⟨err, he⟩ := hb.check false d.dyn
        exact List.ne_nil_of_mem (mem_scan.mpr (.inr ⟨d, hd, hf, .inl he⟩))
      | @type _ d hd hf hct hb =>
        obtain ⟨err, he⟩ := hb.check true d.dyn
        exact List.ne_nil_of_mem (mem_scan.mpr (.inr ⟨d, hd, hf, .inr ⟨hct, he⟩⟩))

variable (roots : List Spec)

variable {g o} in
theorem surfacedKey_bad {referrer : Spec} {fileText : Bool} {r : Res} {k : Spec} :
    surfacedKey g o referrer fileText r = some k → BadRes g o referrer fileText r := by
  fun_cases surfacedKey g o referrer fileText r with
  -- the one leaf that surfaces something: dynamic imports followed, the target's entry is a missing one
  | case3 s rng rs ss _ _ hf c es hs => exact fun _ => .inr (.inr ⟨hf, c, es, hs⟩)
  | _ => exact nofun

/-- whenever an import surfaces a missing entry in place, it reports an error there -/
theorem surfacedKey_isSome (referrer : Spec) (types fileText : Bool) (r : Res) (dyn : Bool) (k : Spec)
    (h : surfacedKey g o referrer fileText r = some k) :
    (checkResolution g o referrer types fileText r dyn).isSome :=
  checkResolution_isSome_iff.mpr (surfacedKey_bad h)

/-- an entry that surfaces something in place contributes an error in place -/
theorem entryErrors_ne_nil_of_surfaced (key k : Spec) (e : Entry) (h : k ∈ entrySurfaced g o key e) :
    entryErrors g o key e ≠ [] := by
  cases e with
  | redirect t => cases h
  | err mi c es => cases h
  | module m =>
    exact (entryErrors_ne_nil_iff g o key _).mpr
      (.of_mem_scan surfacedKey_bad (entrySurfaced_module o key m g ▸ h))

variable {g o roots} in
theorem Failure.of_attached {x : Spec} {e : Entry} {err : ErrOut} (h : C15.Attached g o roots x e err) :
    Failure g o x e := by
  rcases h with he | ⟨-, c, es, rfl, -, -⟩
  · exact ((entryErrors_ne_nil_iff g o x e).mp (List.ne_nil_of_mem he)).failure
  · exact .errorEntry

variable {g o roots} in
/-- listed in place, or (a missing entry visited while dynamic imports are followed) at the import that surfaces
it, or else at the end of the walk -/
theorem Failure.listed (hnd : roots.Nodup) {x : Spec} {e : Entry}
    (hx : Enq g o (fun _ => false) roots x) (hy : yieldOf g o x = some e) (hf : Failure g o x e) :
    g.errors o roots ≠ [] := by
  have hmem := C15.errors_eq_attached g o roots hnd
  rcases hf.inPlace_or_deferred with hp | ⟨hfd, c, es, he⟩
  · obtain ⟨err, herr⟩ := List.exists_mem_of_ne_nil _ ((entryErrors_ne_nil_iff g o x e).mpr hp)
    exact List.ne_nil_of_mem ((hmem err).mpr ⟨x, e, hx, hy, .inl herr⟩)
  · by_cases hs : ∃ y ey, Enq g o (fun _ => false) roots y ∧ yieldOf g o y = some ey ∧ x ∈ entrySurfaced g o y ey
    · obtain ⟨y, ey, hy1, hy2, hy3⟩ := hs
      obtain ⟨err, herr⟩ := List.exists_mem_of_ne_nil _ (entryErrors_ne_nil_of_surfaced g o y x ey hy3)
      exact List.ne_nil_of_mem ((hmem err).mpr ⟨y, ey, hy1, hy2, .inl herr⟩)
    · exact List.ne_nil_of_mem ((hmem (.moduleErr c)).mpr ⟨x, e, hx, hy, .inr ⟨hfd, c, es, he, rfl, hs⟩⟩)

/-- **validation succeeds iff no failure is reachable along the selected edges**: `Failure` counts
every visited error entry — also a missing root, configured import or redirect target visited
while dynamic imports are followed (repair of F5) -/
theorem validate_ok_iff (hnd : roots.Nodup) :
    g.validate o roots = none ↔
      ∀ x e, Enq g o (fun _ => false) roots x → yieldOf g o x = some e → ¬ Failure g o x e := by
  rw [Graph.validate, List.head?_eq_none_iff]
  refine ⟨fun hnil x e hx hy hf => hf.listed hnd hx hy hnil, fun h => ?_⟩
  refine List.eq_nil_iff_forall_not_mem.mpr fun err herr => ?_
  obtain ⟨x, e, hx, hy, he⟩ := (C15.errors_eq_attached g o roots hnd err).mp herr
  exact h x e hx hy (.of_attached he)

/-- the reported error belongs to a visited entry that is a failure (what the error names — the entry's error
code, or the resolved target and the referring range — is read off `checkResolution`; no theorem states it) -/
theorem validate_error_is_reachable_failure (hnd : roots.Nodup) (err : ErrOut)
    (h : g.validate o roots = some err) :
    ∃ x e, Enq g o (fun _ => false) roots x ∧ yieldOf g o x = some e ∧
      C15.Attached g o roots x e err ∧ Failure g o x e := by
  obtain ⟨x, e, hx, hy, he⟩ :=
    (C15.errors_eq_attached g o roots hnd err).mp (List.mem_of_mem_head? (Option.mem_def.mpr h))
  exact ⟨x, e, hx, hy, he, .of_attached he⟩

/-- the options `valid()` uses -/
def defaultOpts : WalkOpts :=
  { kind := .CodeOnly, followDynamic := false, checkJs := fun _ => true, preferFastCheck := false }

/-- `validate_ok_iff` at what `valid()` passes: `defaultOpts`, the graph's own roots -/
theorem valid_ok_iff (hnd : g.roots.Nodup) :
    g.valid = none ↔
      ∀ x e, Enq g defaultOpts (fun _ => false) g.roots x → yieldOf g defaultOpts x = some e →
        ¬ Failure g defaultOpts x e :=
  validate_ok_iff g defaultOpts g.roots hnd

/-- **type-only failures never fail code validation**: when types are not included a module is a
failure only through the *code* side of one of its own recorded dependencies — type
resolutions, types dependencies and fast-check data play no role -/
theorem type_only_failure_ignored (hk : o.kind.includeTypes = false) (key : Spec) (m : Mod) :
    Failure g o key (.module m) ↔
      ∃ d ∈ m.deps, (o.followDynamic = true ∨ d.dyn = false) ∧ BadRes g o key d.fileText d.code := by
  rw [← show walkDeps o key m = m.deps by simp [walkDeps, hk]]
  refine ⟨fun h => ?_, fun ⟨d, hd, hf, hb⟩ => .code hd hf hb⟩
  cases h with
  | typesDep hk' _ _ => cases hk.symm.trans hk'
  | code hd hf hb => exact ⟨_, hd, hf, hb⟩
  | type _ _ hct _ => simp [hk] at hct

/-- when types are not included, type targets are not enqueued either (reachability ignores them) -/
theorem type_targets_not_followed (hk : o.kind.includeTypes = false) (d : Dep) (t : Spec) :
    t ∈ depTargets o.kind d ↔ d.code.okSpec? = some t := by
  rw [mem_depTargets, hk]
  exact or_iff_left fun h => nomatch h.1

/-- **unfollowed dynamic edges never fail validation**: without `follow_dynamic` a dependency can
make its module a failure only if it is static -/
theorem unfollowed_dynamic_ignored (hf : o.followDynamic = false) (key : Spec) (m : Mod)
    (h : Failure g o key (.module m)) :
    (∃ td, m.typesDep = some td ∧ BadRes g o key td.fileText td.res) ∨
    (∃ d ∈ walkDeps o key m, d.dyn = false ∧
      (BadRes g o key d.fileText d.code ∨ BadRes g o key d.fileText d.type)) := by
  have hdyn {d : Dep} (h : o.followDynamic = true ∨ d.dyn = false) : d.dyn = false :=
    h.resolve_left fun h => nomatch hf.symm.trans h
  cases h with
  | typesDep _ htd hb => exact .inl ⟨_, htd, hb⟩
  | code hd hfd hb => exact .inr ⟨_, hd, hdyn hfd, .inl hb⟩
  | type hd hfd _ hb => exact .inr ⟨_, hd, hdyn hfd, .inr hb⟩

/-- without `follow_dynamic` the target of a dynamic dependency is not enqueued either -/
theorem unfollowed_dynamic_not_enqueued (hf : o.followDynamic = false) (key t : Spec) (m : Mod)
    (h : t ∈ succs o key (.module m)) :
    ∃ d ∈ walkDeps o key m, d.dyn = false ∧ t ∈ depTargets o.kind d := by
  obtain ⟨d, hd, hc, ht⟩ := mem_depEdgeTargets.mp h
  exact ⟨d, hd, hc.resolve_right (by simp [hf]), ht⟩

/-- a visited entry that is a failure makes validation fail -/
theorem failure_never_dropped (hnd : roots.Nodup) (x : Spec) (e : Entry)
    (h : (x, e) ∈ g.walk o roots) (hf : Failure g o x e) : g.validate o roots ≠ none := by
  obtain ⟨h1, h2⟩ := (C15.walk_eq_visits g o (fun _ => false) roots hnd x _).mp h
  exact fun hv => (validate_ok_iff g o roots hnd).mp hv x _ h1 h2 hf

/-- a missing module that is the resolved target of a followed dependency is reported in place,
at that import -/
theorem missing_reported_in_place (hfd : o.followDynamic = true) (key : Spec) (m : Mod) (d : Dep)
    (hd : d ∈ walkDeps o key m) (s rng c es : Nat) (hc : d.code = .ok s rng)
    (hmiss : g.slot (g.resolve s) = some (.err true c es)) :
    InPlace g o key (.module m) :=
  InPlace.code hd (Or.inl hfd) (by
    unfold BadRes
    rw [hc]
    exact Or.inr (Or.inr ⟨hfd, c, es, hmiss⟩))

/-- **no reachable failure is ever skipped**: every visited error entry — whatever made the
walk visit it: a root, a configured import, a redirect, a dependency — makes validation fail.
(Before the repair of F5 this was false for missing roots under `follow_dynamic`; the
counterexample graph is `missingRoot` below.) -/
theorem missing_never_dropped (hnd : roots.Nodup) (x : Spec) (mi : Bool) (c es : Nat)
    (h : (x, Entry.err mi c es) ∈ g.walk o roots) : g.validate o roots ≠ none :=
  failure_never_dropped g o roots hnd x _ h .errorEntry

/-- a graph whose only root is missing (F5's input) -/
def missingRoot : Graph :=
  { kind := .All, roots := [0], slots := [(0, .err true 5 0)], redirects := [], imports := [], schemes := [] }

/-- with `follow_dynamic` the missing root is now reported -/
example : missingRoot.validate
    { kind := .All, followDynamic := true, checkJs := fun _ => true, preferFastCheck := false } [0]
    = some (.moduleErr 5) := by decide +kernel

/-- non-vacuity of `validate_ok_iff`: a failing and a passing graph -/
example : C15.demo.validate (C15.demoOpts .All true) [0] = some (.missingDynamic 4 1) := by decide +kernel
example : C15.demo.valid = none := by decide +kernel

end DG.C02
