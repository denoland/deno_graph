import Proofs.BuildOps
/-!
# C05 — known checksums are always enforced; new ones are recorded faithfully

Model: the checksum plumbing of `DG/Build.lean` — `knownChecksum` (`Locker::get_remote_checksum`),
the request queued by `load_pending_module`, `World.answer` (a loader that verifies the checksum it
is given), `tryLoad'` (one cache-bypassing retry), `recordChecksum` (`Locker::set_remote_checksum`).
Scope here: remote (non-registry) modules; registry manifests and package files are covered with
the registry worlds.
-/
namespace DG.C05
open DG DG.Build Tables

variable (w : World) (o : Opts)

/-- **every load presents the known checksum**: the request queued for a specifier carries what
the lockfile (or an earlier write of this build) says about it -/
theorem queued_request_has_known_checksum (st : St) (lo : LoadOpts) (count : Nat) (spec : Spec) :
    ∃ r, (loadPendingModule w st lo count spec).pending = st.pending ++ [r] ∧ r.spec = spec ∧
      r.checksum = knownChecksum w (st.setSlot spec (.pending lo.isAsset)) spec := by
  exact ⟨_, rfl, rfl, rfl⟩

/-- the lockfile entry takes precedence over anything recorded during the build -/
theorem lockfile_checksum_wins (st : St) (spec : Spec) (c : Nat) (hl : w.hasLocker = true)
    (h : w.lockRemote.lookup spec = some c) : knownChecksum w st spec = some c := by
  simp [knownChecksum, hl, h]

/-- both the load and the retry present exactly the request's checksum to the loader -/
theorem loader_calls_present_request_checksum (r : Req) (st : St) :
    ∀ c ∈ (logRequest w o r st).log, c ∈ st.log ∨ (c.spec = r.spec ∧ c.checksum = r.checksum ∧
      c.ensureCached = r.isAsset) := by
  rw [logRequest_eq]
  refine List.forall_mem_append.mpr ⟨fun _ => Or.inl, List.forall_mem_cons.mpr ⟨.inr ⟨rfl, rfl, rfl⟩, ?_⟩⟩
  split
  · exact List.forall_mem_singleton.mpr (.inr ⟨rfl, rfl, rfl⟩)
  · exact fun _ h => nomatch h

/-- at most one retry per request, and only after a checksum failure -/
theorem at_most_one_retry (r : Req) (st : St) :
    (logRequest w o r st).log.length ≤ st.log.length + 2 ∧
    ((logRequest w o r st).log.length = st.log.length + 2 → w.answer r.spec r.checksum false = .checksumError) := by
  rw [logRequest_eq]
  show (st.log ++ _ :: _).length ≤ _ ∧ ((st.log ++ _ :: _).length = _ → _)
  rw [List.length_append, List.length_cons]
  split
  · exact ⟨Nat.le_refl _, fun _ => tryLoad'_retry w o r ‹_›⟩
  · exact ⟨Nat.le_succ _, fun h => absurd (Nat.add_left_cancel h) (by decide)⟩

/-- **content the loader rejects is never admitted**: rejected on the first load and not accepted
by the retry ⇒ an integrity error entry for the requested specifier -/
theorem mismatch_never_admitted (r : Req)
    (h1 : w.answer r.spec r.checksum false = .checksumError)
    (h2 : ∀ f, w.answer r.spec r.checksum true ≠ .module f)
    (h3 : ∀ f, w.answer r.spec r.checksum true ≠ .external f) :
    tryLoad w o r = .err { kind := .checksum, spec := r.spec, referrer := r.range } := by
  unfold tryLoad tryLoad'
  -- `h1` selects the retry; the catch-all arm of the retry's `match` applies because `h2` and `h3` exclude the two
  -- accepting arms (`simp` finds them in the context when it discharges the side conditions of that arm)
  simp only [h1]

/-- a loader that verifies checksums rejects content whose hash differs from the one presented -/
theorem answer_rejects_mismatch (s f : Spec) (c : Nat) (reload : Bool)
    (hm : w.respFor s reload = .module f)
    (hh : (if reload then w.hashReload.lookup s else w.hashUse.lookup s) ≠ some c) :
    w.answer s (some c) reload = .checksumError := by
  unfold World.answer
  simp only [hm]
  have : ((if reload = true then w.hashReload.lookup s else w.hashUse.lookup s) == some c) = false := by
    simpa using hh
  simp [this]

/-- **a checksummed URL that redirects is rejected** -/
theorem checksummed_redirect_rejected (r : Req) (to : Spec) (c : Nat)
    (h : w.respOf r.spec = .redirect to) (hc : r.checksum = some c) :
    tryLoad w o r = .err { kind := .checksumRedirect, spec := r.spec, referrer := r.range } := by
  unfold tryLoad tryLoad'
  simp [World.answer, World.respFor, h, hc]

/-- **new checksums are recorded**: a newly seen remote non-declaration module gets the hash of
the bytes used handed to the lockfile -/
theorem new_checksum_recorded (cls : Class) (f : Spec) (hash : Nat) (st : St)
    (hl : w.hasLocker = true) (hd : isDeclaration cls.mediaType = false) (hr : f ∈ w.remote)
    (hn : w.lockRemote.lookup f = none) (hw : st.lockWrites.lookup f = none) :
    (recordChecksum w cls f (some hash) st).lockWrites = st.lockWrites ++ [(f, hash)] := by
  simp [recordChecksum, hl, hd, hr, hn, hw]

/-- **existing lockfile entries are never overwritten**: nothing is written for a specifier
the lockfile already knows (or that was written earlier in this build) -/
theorem no_overwrite (cls : Class) (f : Spec) (hash : Option Nat) (st : St)
    (h : (w.lockRemote.lookup f).isSome ∨ (st.lockWrites.lookup f).isSome) :
    (recordChecksum w cls f hash st).lockWrites = st.lockWrites := by
  rw [recordChecksum, if_neg]
  -- one of the last two conjuncts of the condition fails
  rw [Bool.and_eq_true, Bool.and_eq_true]
  rintro ⟨⟨-, h1⟩, h2⟩
  rcases h with h | h
  · rw [Option.isNone_eq_false_iff.mpr h] at h1; cases h1
  · rw [Option.isNone_eq_false_iff.mpr h] at h2; cases h2

/-- declaration files and local files are never recorded, and nothing is without a locker -/
theorem not_recorded (cls : Class) (f : Spec) (hash : Option Nat) (st : St)
    (h : w.hasLocker = false ∨ isDeclaration cls.mediaType = true ∨ f ∉ w.remote) :
    (recordChecksum w cls f hash st).lockWrites = st.lockWrites := by
  unfold recordChecksum
  rcases h with h | h | h
  · simp [h]
  · simp [h]
  · have : w.remote.contains f = false := by simpa using h
    simp only [this, Bool.and_false, Bool.false_and, Bool.false_eq_true, if_false]

/-- a recording step only appends to the lock writes -/
theorem writes_append_only (cls : Class) (f : Spec) (hash : Option Nat) (st : St) :
    ∃ l, (recordChecksum w cls f hash st).lockWrites = st.lockWrites ++ l := by
  unfold recordChecksum
  split
  · exact ⟨_, rfl⟩
  · exact ⟨[], by simp⟩

/-- a tampered cache (hash 8) under a lockfile entry that matches what the server has (hash 7) -/
def demoWorld : World :=
  { resp := [(0, .module 0)],
    content := [(0, { mt := .TypeScript, schemeFile := false, decodable := true, parsable := true, wasmOk := true,
                      parsed := { deps := [], typesDep := none, sourceMapDep := none } })],
    wasmExt := [], nodeSpecs := [], maxRedirects := 10, lockRemote := [(0, 7)],
    hashUse := [(0, 8)], hashReload := [(0, 7)], hasLocker := true, remote := [0] }

def demoOpts : Opts :=
  { kind := .All, isDynamic := false, skipDynamicDeps := false, unstableBytes := false,
    unstableText := false, unstableCss := false, unstableConfig := false }

-- non-vacuity: one retry, which is accepted; nothing is written, the lockfile has the entry
example : ((build demoWorld demoOpts [0] [] 20).map fun st =>
    (st.log.map fun c => (c.spec, c.reload, c.checksum), st.lockWrites)) =
    some ([(0, false, some 7), (0, true, some 7)], []) := by decide +kernel

end DG.C05
