import DG.ModInfo
import Proofs.OrdSet
/-!
# C13 — module information survives serialisation

Model: `DG/ModInfo.lean` (the JSON writer and reader that `serde` derives for `ModuleInfo` and its
parts, and the comment-to-types-specifier step of `module_graph_1_to_2`).
-/
namespace DG.C13
open DG.MI

theorem lookup_mkFields_nil (k : String) : (mkFields []).lookup k = none := rfl

/-- `kvs` is the object under the name the caller's goal has for it (`h` is `rfl`), so that the facts rewrite that
goal as it stands. -/
theorem lookup_mkFields (kvs : List (String × J)) {fs : List (String × Option J)} (h : kvs = mkFields fs)
    (nd : (fs.map (·.1)).Nodup) : ∀ p ∈ fs, kvs.lookup p.1 = p.2 := by
  subst h
  intro ⟨k, ov⟩ hp
  rw [mkFields, lookup_filterMap (fun h => ?_) nd hp]
  · cases ov <;> rfl
  · obtain ⟨v, -, rfl⟩ := Option.map_eq_some_iff.mp h
    rfl

theorem opt_match_id {α} (o : Option α) :
    (match o with | some v => some v | none => none) = o := by cases o <;> rfl

theorem pos_rt (p : Pos) : decPos (encPos p) = some p := rfl

theorem range_rt (r : Range) : decRange (encRange r) = some r := by
  simp [decRange, encRange, pos_rt]

theorem specOf_rt (s : SpecR) {kvs : List (String × J)} (ht : kvs.lookup "text" = some (.str s.text))
    (hr : kvs.lookup "range" = some (encRange s.range)) : specOf kvs = some s := by
  simp [specOf, getStr, ht, hr, range_rt]

theorem spec_rt (s : SpecR) : decSpecR (encSpecR s) = some s := by
  have L := lookup_mkFields (mkFields (specFields s)) rfl (by simp [specFields])
  simp only [specFields, List.forall_mem_cons] at L
  obtain ⟨htext, hrange, -⟩ := L
  exact specOf_rt s htext hrange

theorem attr_rt (a : Attr) : decAttr (encAttr a) = some a := by
  cases a <;> rfl

theorem attr_entries_rt (m : List (String × Attr)) :
    decAttrEntries (m.map fun p => (p.1, encAttr p.2)) = some m := by
  induction m with
  | nil => rfl
  | cons p r ih =>
    obtain ⟨k, a⟩ := p
    simp [decAttrEntries, attr_rt, ih]

theorem tpart_rt (t : TPart) : decTPart (encTPart t) = some t := by
  cases t <;> rfl

/- The match on string literals (a chain of `if s = "…"`) is unfolded before `cases`, so that `simp` compares
literals by their first differing character (`String.reduceEq`); `decide` or `rfl` would run `String.decEq` on bytes. -/
theorem res_mode_rt (m : ResMode) : ResMode.parse m.name = some m := by
  unfold ResMode.parse ResMode.parse.match_1
  cases m <;> simp only [ResMode.name, String.reduceEq, ↓reduceDIte]

theorem static_kind_rt (k : StaticKind) : StaticKind.parse k.name = some k := by
  unfold StaticKind.parse StaticKind.parse.match_1
  cases k <;> simp only [StaticKind.name, String.reduceEq, ↓reduceDIte]

theorem dyn_kind_rt (k : DynKind) : DynKind.parse k.name = some k := by
  unfold DynKind.parse DynKind.parse.match_1
  cases k <;> simp only [DynKind.name, String.reduceEq, ↓reduceDIte]

theorem decList_map {α} {dec : J → Option α} {enc : α → J} (h : ∀ x, dec (enc x) = some x) (l : List α) :
    decList dec (l.map enc) = some l := by
  induction l with
  | nil => rfl
  | cons x r ih => simp [decList, h, ih]

theorem attrs_field_rt {a : Attrs} {kvs : List (String × J)} (hk : kvs.lookup "importAttributes" = encAttrs a) :
    decAttrs kvs = some a := by
  unfold decAttrs
  rw [hk]
  cases a with
  | none => rfl
  | unknown => simp [encAttrs]
  | known m => simp [encAttrs, attr_entries_rt]

theorem dynArg_field_rt {a : DynArg} {kvs : List (String × J)} (hk : kvs.lookup "argument" = encDynArg a) :
    decDynArg kvs = some a := by
  unfold decDynArg
  rw [hk]
  cases a with
  | str s => rfl
  | template l => simp [encDynArg, decList_map tpart_rt]
  | expr => rfl

theorem optSpec_field_rt {o : Option SpecR} {kvs : List (String × J)} {k : String}
    (hk : kvs.lookup k = o.map encSpecR) : optField decSpecR kvs k = some o := by
  unfold optField
  rw [hk]
  cases o with
  | none => rfl
  | some s => exact congrArg (Option.map some) (spec_rt s)

theorem bool_field_rt {b : Bool} {kvs : List (String × J)} {k : String}
    (hk : kvs.lookup k = optBool b) : boolField kvs k = some b := by
  unfold boolField
  rw [hk]
  cases b <;> rfl

theorem mode_field_rt {m : Option ResMode} {kvs : List (String × J)}
    (hk : kvs.lookup "resolutionMode" = encMode m) : decMode kvs = some m := by
  unfold decMode
  rw [hk]
  cases m with
  | none => rfl
  | some m => simp [encMode, res_mode_rt]

theorem list_field_rt {α} {dec : J → Option α} {enc : α → J} (h : ∀ x, dec (enc x) = some x)
    {l : List α} {kvs : List (String × J)} {k : String}
    (hk : kvs.lookup k = optList (l.map enc)) : listField dec kvs k = some l := by
  unfold listField
  rw [hk]
  cases l with
  | nil => rfl
  | cons x r => exact decList_map h (x :: r)

theorem dynKind_field_rt {k : DynKind} {kvs : List (String × J)} (hk : kvs.lookup "kind" = encDynKind k) :
    decDynKind kvs = some k := by
  unfold decDynKind
  rw [hk, encDynKind]
  by_cases h : k = .import
  · simp [h]
  · simp [h, dyn_kind_rt]

theorem static_rt (d : StaticDep) : decDep (encDep (.static d)) = some (.static d) := by
  have L := lookup_mkFields (staticFields d) rfl (by simp)
  simp only [List.forall_mem_cons] at L
  obtain ⟨htype, hkind, htypes, hspec, hrange, hside, hattrs, -⟩ := L
  simp [encDep, encStatic, decDep, getStr, htype, decStatic, hkind, hspec, hrange, optSpec_field_rt htypes,
    bool_field_rt hside, attrs_field_rt hattrs, static_kind_rt, range_rt]

theorem dyn_rt (d : DynDep) : decDep (encDep (.dynamic d)) = some (.dynamic d) := by
  have L := lookup_mkFields (dynFields d) rfl (by simp)
  simp only [List.forall_mem_cons] at L
  obtain ⟨htype, hkind, htypes, harg, hrange, hattrs, -⟩ := L
  simp [encDep, encDyn, decDep, getStr, htype, decDyn, hrange, dynKind_field_rt hkind, optSpec_field_rt htypes,
    dynArg_field_rt harg, attrs_field_rt hattrs, range_rt]

theorem dep_rt (d : Dep) : decDep (encDep d) = some d := by
  cases d with
  | static d => exact static_rt d
  | dynamic d => exact dyn_rt d

theorem tsref_rt (r : TsRef) : decTsRef (encTsRef r) = some r := by
  cases r with
  | path s =>
    have L := lookup_mkFields (tsRefFields (.path s)) rfl (by simp)
    simp only [List.forall_mem_cons] at L
    obtain ⟨htype, htext, hrange, -⟩ := L
    simp [decTsRef, encTsRef, getStr, htype, specOf_rt s htext hrange]
  | types s m =>
    have L := lookup_mkFields (tsRefFields (.types s m)) rfl (by simp)
    simp only [List.forall_mem_cons] at L
    obtain ⟨htype, htext, hrange, hmode, -⟩ := L
    simp [decTsRef, encTsRef, getStr, htype, specOf_rt s htext hrange, mode_field_rt hmode]

theorem jsdoc_rt (d : JsDoc) : decJsDoc (encJsDoc d) = some d := by
  have L := lookup_mkFields (jsDocFields d) rfl (by simp)
  simp only [List.forall_mem_cons] at L
  obtain ⟨htext, hrange, hmode, -⟩ := L
  simp [decJsDoc, encJsDoc, specOf_rt d.spec htext hrange, mode_field_rt hmode]

/-- **serialising the analysis result of any module and reading it back yields an identical
result** — for every `ModuleInfo` value, all field combinations (empty and non-empty lists,
default and non-default kinds, every attribute form) -/
theorem decode_encode (m : ModuleInfo) : decode (encode m) = some m := by
  have L := lookup_mkFields (infoFields m) rfl (by simp)
  simp only [List.forall_mem_cons] at L
  obtain ⟨hscript, hdeps, hrefs, hself, hjsx, hjsxTypes, hjsdoc, hmap, -⟩ := L
  simp only [encode, decode]
  rw [bool_field_rt hscript, list_field_rt dep_rt hdeps, list_field_rt tsref_rt hrefs, optSpec_field_rt hself,
    optSpec_field_rt hjsx, optSpec_field_rt hjsxTypes, list_field_rt jsdoc_rt hjsdoc, optSpec_field_rt hmap]
  rfl

/-- the writer is injective: different analysis results never share a JSON form -/
theorem encode_injective (a b : ModuleInfo) (h : encode a = encode b) : a = b := by
  have ha := decode_encode a
  rw [h, decode_encode b] at ha
  exact (Option.some.inj ha).symm

/-- **older `moduleGraph1` manifests keep their `@deno-types` information**: the types specifier
recovered from a dependency's leading comment is the one `find_deno_types` finds in the last comment,
with the range of the specifier on the comment's line -/
theorem upgrade_keeps_types (find : String → Option (String × Nat × Nat × Bool)) (pre : List Comment)
    (c : Comment) (t : String) (lo hi : Nat) (q : Bool) (h : find c.text = some (t, lo, hi, q)) :
    upgradeTypes find (pre ++ [c]) = some { text := t, range := commentRange c.range.s lo hi q } := by
  simp [upgradeTypes, h]

/-- the range arithmetic: a `// @deno-types="x"` comment starting at column `col` gives the range of
`"x"` including its quotes -/
theorem commentRange_quotes (line col lo hi : Nat) (hlo : 1 ≤ lo) :
    commentRange { line := line, char := col } lo hi false =
      { s := { line := line, char := col + 1 + lo }, e := { line := line, char := col + 3 + hi } } := by
  simp only [commentRange, Bool.false_eq_true, if_false]
  rw [Nat.add_right_comm col 2 lo, Nat.add_right_comm col 2 hi, Nat.add_right_comm col 1 lo, Nat.add_right_comm col 3 hi]
  rfl

/-- the range arithmetic for a pragma without quotes: exactly the specifier (as the analyser reports it; the
upgrade ignored this before 'fix: … quoteless' in /repo) -/
theorem commentRange_quoteless (line col lo hi : Nat) :
    commentRange { line := line, char := col } lo hi true =
      { s := { line := line, char := col + 2 + lo }, e := { line := line, char := col + 2 + hi } } := by
  simp [commentRange]

def demo : ModuleInfo :=
  { script := false,
    deps := [.static { kind := .import, typesSpecifier := none, specifier := "./a.ts",
                       specifierRange := ⟨⟨0, 7⟩, ⟨0, 15⟩⟩, sideEffect := true,
                       attrs := .known [("type", .known "json")] },
             .dynamic { kind := .require, typesSpecifier := none, argument := .template [.str "./x", .expr],
                        argumentRange := ⟨⟨1, 7⟩, ⟨1, 15⟩⟩, attrs := .unknown }],
    tsRefs := [.types ⟨"node", ⟨⟨0, 0⟩, ⟨0, 5⟩⟩⟩ (some .require)], selfTypes := none, jsxSrc := none,
    jsxSrcTypes := none, jsdoc := [], sourceMap := none }

example : decode (encode demo) = some demo := decode_encode demo

end DG.C13
