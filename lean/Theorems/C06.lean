import Proofs.JsrVersion
import Proofs.JsrSpec
/-!
# C06 — JSR requirements resolve to the specified version

Model: `DG/JsrVersion.lean` (`resolve_version`, `JsrPackageVersionResolver::resolve_version`,
`NewestDependencyDateOptions::get_for_package`, `jsr_unification_decides`); the cached-manifest probe
and its memo (`probe_cached_jsr_version_manifests`) are in `DG/JsrSpec.lean`.
All theorems are for arbitrary lists: the code iterates a `HashMap`, so nothing may depend
on the order of the registry's version map.
-/
namespace DG.C06
open DG.Jsr

variable (sat : Nat → Bool) (cutoff : Option Nat)

/-- **the fold selects the greatest candidate** -/
theorem resolveVersion_is_max (vs : List (Nat × Option VInfo)) (v : Nat) :
    (resolveVersion sat cutoff vs).best = some v ↔
      (∃ p ∈ vs, p.1 = v ∧ Cand sat cutoff p) ∧ ∀ p ∈ vs, Cand sat cutoff p → p.1 ≤ v := by
  rw [resolveVersion_best, List.max?_eq_some_iff, mem_candVersions, forall_mem_candVersions]

theorem resolveVersion_none_iff (vs : List (Nat × Option VInfo)) :
    (resolveVersion sat cutoff vs).best = none ↔ ∀ p ∈ vs, ¬ Cand sat cutoff p := by
  rw [resolveVersion_best, List.max?_eq_none_iff, List.eq_nil_iff_forall_not_mem]
  exact forall_mem_candVersions (P := fun _ => False)

/-- the "a newer match was excluded" flag: some version satisfies the requirement at all -/
theorem hadHigher_iff (vs : List (Nat × Option VInfo)) :
    (resolveVersion sat cutoff vs).hadHigher = true ↔ ∃ p ∈ vs, sat p.1 = true := by
  rw [resolveVersion_hadHigher, List.any_eq_true]

variable {sat cutoff} in
theorem best_congr {l l' : List (Nat × Option VInfo)}
    (h : ∀ p, (p ∈ l ∧ Cand sat cutoff p) ↔ (p ∈ l' ∧ Cand sat cutoff p)) :
    (resolveVersion sat cutoff l).best = (resolveVersion sat cutoff l').best := by
  rw [resolveVersion_best, resolveVersion_best]
  refine max?_congr fun v => ?_
  rw [mem_candVersions, mem_candVersions]
  exact exists_congr fun p => by rw [and_left_comm, h p, and_left_comm]

/-- **order independence**: permuting the version map changes nothing -/
theorem resolveVersion_perm (vs vs' : List (Nat × Option VInfo)) (hp : vs.Perm vs') :
    resolveVersion sat cutoff vs = resolveVersion sat cutoff vs' := by
  rw [resolveVersion_eq, resolveVersion_eq, hp.any_eq]
  exact congrArg (Acc.mk · _) (max?_congr fun _ => ((hp.filter _).map _).mem_iff)

variable (infos : List (Nat × VInfo)) (existing cached : List Nat)

/-- **1. an already selected version wins**: the highest selected version satisfying the
requirement is chosen (dates ignored), reported yanked iff the registry says so. -/
theorem selected_wins (v : Nat)
    (hv : (resolveVersion sat none (tier1List existing)).best = some v) :
    resolveTiers sat cutoff infos existing cached =
      .ok v (yankedFlag infos v) ∧
    v ∈ existing ∧ sat v = true ∧ ∀ w ∈ existing, sat w = true → w ≤ v := by
  refine ⟨by unfold resolveTiers; simp only [hv], ?_⟩
  obtain ⟨⟨p, hp, rfl, hpc⟩, hmax⟩ := (resolveVersion_is_max sat none _ v).mp hv
  obtain ⟨w, hw, rfl⟩ := List.mem_map.1 hp
  exact ⟨hw, hpc.1, fun u hu hsu => hmax (u, none) (List.mem_map_of_mem hu) (tier1_cand.mpr hsu)⟩

/-- tier 1 answers exactly when `jsr_unification_decides` says so (so skipping the cache probe
then is unobservable) -/
theorem unification_decides_iff_tier1 :
    unificationDecides sat existing = true ↔
      (resolveVersion sat none (tier1List existing)).best.isSome = true := by
  rw [Option.isSome_iff_ne_none, Ne, resolveVersion_none_iff, unificationDecides, List.any_eq_true, tier1List]
  simp only [List.forall_mem_map, tier1_cand, Classical.not_forall, Classical.not_not, exists_prop]

/-- **1.5 cached manifests preferred**: nothing selected, some cached unyanked date-ok version
satisfies the requirement ⇒ the highest of them, not yanked. -/
theorem cached_preferred (v : Nat)
    (h1 : (resolveVersion sat none (tier1List existing)).best = none)
    (hc : cached.isEmpty = false)
    (hv : (resolveVersion sat cutoff (cachedList infos cached)).best = some v) :
    resolveTiers sat cutoff infos existing cached = .ok v false := by
  unfold resolveTiers
  rw [h1]
  simp only [hc, Bool.false_eq_true, if_false, hv]

/-- the hypothesis on tier 1.5 of the theorems below says that tier 1.5 finds nothing: an empty set of cached
manifests has no candidates either (`cached_guard_redundant`) -/
theorem tier15_none
    (h15 : cached.isEmpty = true ∨ (resolveVersion sat cutoff (cachedList infos cached)).best = none) :
    (resolveVersion sat cutoff (cachedList infos cached)).best = none := by
  rw [← cached_guard_redundant sat cutoff infos cached]
  rcases h15 with h | h
  · rw [if_pos h]
  · rw [h, ite_self]

/-- **2. otherwise the highest non-yanked version** that satisfies the requirement and is not
newer than the cutoff -/
theorem unyanked_highest (v : Nat)
    (h1 : (resolveVersion sat none (tier1List existing)).best = none)
    (h15 : cached.isEmpty = true ∨ (resolveVersion sat cutoff (cachedList infos cached)).best = none)
    (hv : (resolveVersion sat cutoff (unyankedList infos)).best = some v) :
    resolveTiers sat cutoff infos existing cached = .ok v false := by
  unfold resolveTiers
  rw [h1]
  simp only [tier15_none sat cutoff infos cached h15, ite_self, hv]

/-- **3. otherwise the highest yanked version**, reported as a used yanked package -/
theorem yanked_fallback (v : Nat)
    (h1 : (resolveVersion sat none (tier1List existing)).best = none)
    (h15 : cached.isEmpty = true ∨ (resolveVersion sat cutoff (cachedList infos cached)).best = none)
    (h2 : (resolveVersion sat cutoff (unyankedList infos)).best = none)
    (hv : (resolveVersion sat cutoff (yankedList infos)).best = some v) :
    resolveTiers sat cutoff infos existing cached = .ok v true := by
  unfold resolveTiers
  rw [h1]
  simp only [tier15_none sat cutoff infos cached h15, ite_self, h2, hv]

/-- **4. otherwise not found**, and the message mentions the cutoff exactly when some registry
version satisfies the requirement (it was then excluded by date) -/
theorem not_found
    (h1 : (resolveVersion sat none (tier1List existing)).best = none)
    (h15 : cached.isEmpty = true ∨ (resolveVersion sat cutoff (cachedList infos cached)).best = none)
    (h2 : (resolveVersion sat cutoff (unyankedList infos)).best = none)
    (h3 : (resolveVersion sat cutoff (yankedList infos)).best = none) :
    resolveTiers sat cutoff infos existing cached =
      .notFound (if (∃ p ∈ infos, sat p.1 = true) then cutoff else none) := by
  -- a version that satisfies the requirement is in one of the two lists, whichever
  have hh : ((resolveVersion sat cutoff (unyankedList infos)).hadHigher ||
      (resolveVersion sat cutoff (yankedList infos)).hadHigher) = infos.any (sat ·.1) := by
    rw [Bool.or_comm, resolveVersion_hadHigher, resolveVersion_hadHigher, ← List.any_append,
      (yanked_append_unyanked infos).any_eq, List.any_map]
    rfl
  unfold resolveTiers
  rw [h1]
  simp only [tier15_none sat cutoff infos cached h15, ite_self, h2, h3, hh, List.any_eq_true]

/-- **packages excluded from the date rule ignore the cutoff** -/
theorem excluded_package_ignores_date (date : Option Nat) (excluded prefixes : List (List Char))
    (name : List Char)
    (h : name ∈ excluded ∨ ∃ p ∈ prefixes, p.isPrefixOf name = true) (info : Option VInfo) :
    cutoffFor date excluded prefixes name = none ∧
    dateOk info (cutoffFor date excluded prefixes name) = true := by
  have hc := (cutoffFor_eq date excluded prefixes name).trans (if_pos h)
  exact ⟨hc, by rw [hc]; cases info <;> rfl⟩

/-- a package that is not excluded keeps the configured cutoff -/
theorem not_excluded_keeps_date (d : Nat) (excluded prefixes : List (List Char)) (name : List Char)
    (h1 : name ∉ excluded) (h2 : ∀ p ∈ prefixes, p.isPrefixOf name = false) :
    cutoffFor (some d) excluded prefixes name = some d :=
  (cutoffFor_eq ..).trans (if_neg fun h => h.elim h1 fun ⟨p, hp, hpre⟩ => by rw [h2 p hp] at hpre; cases hpre)

variable {sat cutoff infos existing} in
/-- **tier 1.5 only looks at unyanked versions satisfying the requirement**: two cached sets
that agree on those give the same resolution -/
theorem cached_set_irrelevant_outside_matches {C W : List Nat}
    (h : ∀ p ∈ infos, p.2.yanked = false → sat p.1 = true → (p.1 ∈ C ↔ p.1 ∈ W)) :
    resolveTiers sat cutoff infos existing C = resolveTiers sat cutoff infos existing W := by
  have hb : (resolveVersion sat cutoff (cachedList infos C)).best =
      (resolveVersion sat cutoff (cachedList infos W)).best := by
    -- a candidate `p` comes from an unyanked `q ∈ infos` that satisfies the requirement: `h` applies to it
    refine best_congr fun p => and_congr_left fun hc => ?_
    simp only [cachedList, List.mem_map, List.mem_filter, Bool.and_eq_true, Bool.not_eq_true',
      List.contains_eq_mem, decide_eq_true_eq]
    exact exists_congr fun q => and_congr_left fun e => and_congr_right fun hq => and_congr_right fun hy =>
      h q hq hy (e ▸ hc).1
  unfold resolveTiers
  rw [cached_guard_redundant, cached_guard_redundant, hb]

/-- when tier 1 answers, the cached set is never read -/
theorem tier1_ignores_cached (C W : List Nat)
    (h : unificationDecides sat existing = true) :
    resolveTiers sat cutoff infos existing C = resolveTiers sat cutoff infos existing W := by
  rw [unification_decides_iff_tier1, Option.isSome_iff_exists] at h
  obtain ⟨v, hv⟩ := h
  rw [(selected_wins sat cutoff infos existing C v hv).1, (selected_wins sat cutoff infos existing W v hv).1]

/-- what the memo holds for a package is what cache-only probes found among the probed versions -/
def MemoInv (reg : Registry) (m : Memo) : Prop :=
  ∀ name v, v ∈ (m.get name).2 ↔ (v ∈ (m.get name).1 ∧ v ∈ reg.cachedManifests name)

theorem memoInv_empty (reg : Registry) : MemoInv reg [] := by
  intro name v
  simp [Memo.get]

/-- the probe keeps the memo faithful -/
theorem probe_inv (reg : Registry) (m : Memo) (name req : Nat) (infos : List (Nat × VInfo))
    (h : MemoInv reg m) : MemoInv reg (probe reg m name req infos).1 := by
  intro n2 v
  rw [probe_memo, memo_get_setKey]
  split
  · subst n2
    simp only [List.mem_append, List.mem_filter, List.contains_eq_mem, decide_eq_true_eq, h name v]
    exact or_and_right.symm
  · exact h n2 v

/-- after the probe every unyanked version satisfying the requirement has been probed -/
theorem probe_covers (reg : Registry) (m : Memo) (name req : Nat) (infos : List (Nat × VInfo))
    (p : Nat × VInfo) (hp : p ∈ infos) (hy : p.2.yanked = false) (hs : reg.sat req p.1 = true) :
    p.1 ∈ ((probe reg m name req infos).1.get name).1 := by
  rw [probe_memo, memo_get_setKey, if_pos rfl, List.mem_append]
  by_cases hpr : p.1 ∈ (m.get name).1
  · exact .inl hpr
  · exact .inr (List.mem_map.2 ⟨p, List.mem_filter.2 ⟨hp, by simp [hy, hs, hpr]⟩, rfl⟩)

/-- **the memoised probe is unobservable**: whatever was probed earlier in the pass, the version
selected for a pending item is the one the four tiers give for the set of manifests really in the
cache (or for no cache information when the option is off) -/
theorem probe_memo_irrelevant (reg : Registry) (s : P1) (it : Item) (infos : List (Nat × VInfo))
    (hm : MemoInv reg s.memo) :
    resolveTiers (reg.sat it.req) (reg.cutoff it.name) infos (s.table.versionsByName it.name)
        (probeStep reg s it infos).2.2 =
      resolveTiers (reg.sat it.req) (reg.cutoff it.name) infos (s.table.versionsByName it.name)
        (if reg.preferCached then reg.cachedManifests it.name else []) ∧
    MemoInv reg (probeStep reg s it infos).1 := by
  unfold probeStep
  cases hpc : reg.preferCached with
  | false => exact ⟨rfl, hm⟩
  | true =>
    cases hu : unificationDecides (reg.sat it.req) (s.table.versionsByName it.name) with
    | true => exact ⟨tier1_ignores_cached (h := hu) .., hm⟩
    | false =>
      have hinv := probe_inv reg s.memo it.name it.req infos hm
      refine ⟨cached_set_irrelevant_outside_matches fun p hp hy hs => ?_, hinv⟩
      exact (hinv it.name p.1).trans (and_iff_right (probe_covers reg s.memo it.name it.req infos p hp hy hs))

/-! ## why the order on versions has to be strict (finding F37)

The theorems above are about versions as naturals under `<`: distinct versions are strictly
ordered.  `deno_semver`'s precedence is not: two versions that differ in build metadata only
compare as equal.  The selection fold with a comparison that has a tie keeps the first of the
equal versions it meets, so its result depends on the order of the list — which for the registry
map is the iteration order of a `HashMap`.  The repaired code breaks the tie on the build
metadata, which makes the comparison a strict total order again (the harness interns versions in
that order, and resolves every configuration on maps with different iteration orders). -/

/-- the selection fold of `resolve_version` over an arbitrary "is better" comparison -/
def pickWith (better : Nat → Nat → Bool) (l : List Nat) : Option Nat :=
  l.foldl (fun b v => match b with
    | none => some v
    | some x => if better x v then some v else some x) none

/-- precedence that ignores the last bit ("the build metadata"): 2 and 3 tie -/
def tiedPrecedence (a b : Nat) : Bool := a / 2 < b / 2

theorem tie_makes_selection_order_dependent :
    pickWith tiedPrecedence [2, 3] ≠ pickWith tiedPrecedence [3, 2] := by decide +kernel

/-- with the tie broken the two orders agree -/
theorem tie_broken_is_order_independent :
    pickWith (fun a b => a < b) [2, 3] = pickWith (fun a b => a < b) [3, 2] := by decide +kernel

/-- non-vacuity: 1.0.0 (old), 1.1.0 (yanked), 1.2.0 (newer than the cutoff); `^1` -/
def demoInfos : List (Nat × VInfo) :=
  [(2, { yanked := false, createdAt := some 50 }), (0, { yanked := false, createdAt := some 10 }),
   (1, { yanked := true, createdAt := some 20 })]

example : resolveTiers (fun _ => true) (some 30) demoInfos [] [] = .ok 0 false := by decide +kernel
example : resolveTiers (fun v => v != 0) (some 30) demoInfos [] [] = .ok 1 true := by decide +kernel
example : resolveTiers (fun v => v == 2) (some 30) demoInfos [] [] = .notFound (some 30) := by decide +kernel
example : resolveTiers (fun v => v == 7) (some 30) demoInfos [] [] = .notFound none := by decide +kernel
example : resolveTiers (fun _ => true) (some 30) demoInfos [1] [] = .ok 1 true := by decide +kernel

end DG.C06
