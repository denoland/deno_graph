import Theorems.C15
import Proofs.Segment
import Proofs.Resolve
/-!
# C18 — a graph segment is self-contained and equals a direct build of its roots

Model: `DG/Segment.lean` (`segment` = clone shortcut, otherwise the entries of a walk with the
graph's own kind, following dynamic imports, check_js on) on top of the walk model, whose exact
characterisation is C15's theorem.

The theorems compare a segment with the graph it is cut from, on the set the walk reaches.  The comparison
with a direct build of the roots is the oracle's (DESIGN.md §4 C18); no theorem here makes it.
-/
namespace DG.C18
open DG Tables

/-- **clone shortcut**: asking for roots the graph already has returns the graph itself -/
theorem segment_clone (g : Graph) (roots : List Spec)
    (h : (dedup roots).all (fun r => g.roots.contains r) = true) : g.segment roots = g := by
  unfold Graph.segment
  simp only [h, if_true]

variable (g : Graph) (roots : List Spec)

/-- the walk a segment is cut from when some requested root is new -/
def walked (g : Graph) (roots : List Spec) : List (Spec × Entry) := g.walk (segmentOpts g) (dedup roots)

variable {g roots} in
theorem mem_walked {k : Spec} {e : Entry} :
    (k, e) ∈ walked g roots ↔
      Enq g (segmentOpts g) (fun _ => false) (dedup roots) k ∧ yieldOf g (segmentOpts g) k = some e :=
  C15.walk_eq_visits g (segmentOpts g) (fun _ => false) (dedup roots) (nodup_dedup roots) k e

theorem nodup_walked : ((walked g roots).map (·.1)).Nodup :=
  C15.walk_nodup g (segmentOpts g) (fun _ => false) (dedup roots) (nodup_dedup roots)

section
variable {g roots} (hnew : (dedup roots).all (fun r => g.roots.contains r) = false)
include hnew

theorem mem_segment_slots {q : Spec × Slot} :
    q ∈ (g.segment roots).slots ↔ ∃ p ∈ walked g roots, entrySlot p = some q := by
  rw [segment_of_new hnew]
  exact List.mem_filterMap

theorem mem_segment_redirects {k to : Spec} :
    (k, to) ∈ (g.segment roots).redirects ↔ (k, .redirect to) ∈ walked g roots := by
  rw [segment_of_new hnew]
  simp only [List.mem_filterMap, entryRedirect_eq_some, exists_eq_right, walked]

end

/-- **faithful entries**: every module or error entry of the segment is the original graph's
entry under the same key — same module (with all its recorded dependencies) or same error -/
theorem segment_slot_faithful (hnew : (dedup roots).all (fun r => g.roots.contains r) = false)
    (k : Spec) (sl : Slot) (h : (k, sl) ∈ (g.segment roots).slots) : g.slot k = some sl := by
  obtain ⟨⟨k', e⟩, hw, hes⟩ := (mem_segment_slots hnew).mp h
  have hy := yieldOf_eq_some (mem_walked.mp hw).2
  cases e <;> cases hes <;> exact hy

/-- every redirect of the segment is the original's redirect, from a specifier without an entry -/
theorem segment_redirect_faithful (hnew : (dedup roots).all (fun r => g.roots.contains r) = false)
    (k to : Spec) (h : (k, to) ∈ (g.segment roots).redirects) :
    g.redirect k = some to ∧ g.slot k = none :=
  (yieldOf_eq_some (mem_walked.mp ((mem_segment_redirects hnew).mp h)).2).symm

/-- **closed under the walk's own edges**: the segment contains an entry for exactly the
specifiers the statement's reachability relation selects from the requested roots (following
dynamic imports, under the graph's kind) and that yield something -/
theorem segment_contains_exactly_reachable
    (hnew : (dedup roots).all (fun r => g.roots.contains r) = false) (k : Spec) (e : Entry) :
    ((∃ sl, entrySlot (k, e) = some (k, sl) ∧ (k, sl) ∈ (g.segment roots).slots) ∨
     (∃ to, e = .redirect to ∧ (k, to) ∈ (g.segment roots).redirects)) ↔
    (Enq g (segmentOpts g) (fun _ => false) (dedup roots) k ∧ yieldOf g (segmentOpts g) k = some e) := by
  rw [← mem_walked]
  constructor
  · rintro (⟨sl, hsl, h⟩ | ⟨to, rfl, h⟩)
    · obtain ⟨p, hw, hes⟩ := (mem_segment_slots hnew).mp h
      exact entrySlot_inj hes hsl ▸ hw
    · exact (mem_segment_redirects hnew).mp h
  · intro hw
    cases e with
    | module m => exact .inl ⟨_, rfl, (mem_segment_slots hnew).mpr ⟨_, hw, rfl⟩⟩
    | err mi c es => exact .inl ⟨_, rfl, (mem_segment_slots hnew).mpr ⟨_, hw, rfl⟩⟩
    | redirect to => exact .inr ⟨to, rfl, (mem_segment_redirects hnew).mpr hw⟩

/-! Lookups and redirect following in the segment agree with the original.  Every specifier the walk
reaches has the same redirect in the segment as far as `resolve` consults it, and `resolve` runs through
the same chain to the same end, whatever the graph's kind (`segment_redirectEff_agrees`,
`segment_resolve_agrees`; `segment_redirectEff_eq` and `segment_resolve_eq` are the same statements with a
kind hypothesis they do not use).  It has the same entry unless the graph is types-only: there the walk
replaces an untyped module by its types dependency (finding F19). -/

section lookups
variable (hnew : (dedup roots).all (fun r => g.roots.contains r) = false)
include hnew

theorem segment_slot_lookup (k : Spec) (e : Entry) (sl : Slot)
    (hw : (k, e) ∈ walked g roots) (hes : entrySlot (k, e) = some (k, sl)) :
    (g.segment roots).slot k = some sl := by
  rw [segment_of_new hnew]
  exact (lookup_filterMap entrySlot_key (nodup_walked g roots) hw).trans (congrArg _ hes)

variable {g roots} in
theorem segment_redirect_lookup {k to : Spec} (hw : (k, .redirect to) ∈ walked g roots) :
    (g.segment roots).redirect k = some to := by
  rw [segment_of_new hnew]
  exact lookup_filterMap entryRedirect_key (nodup_walked g roots) hw

variable {g roots} in
/-- the form in which `resolveWith_agree` takes it -/
theorem segment_redirectEff_agrees (x : Spec)
    (hx : Enq g (segmentOpts g) (fun _ => false) (dedup roots) x) :
    (g.segment roots).redirectEff x = g.redirectEff x ∧
    ∀ t, g.redirectEff x = some t → Enq g (segmentOpts g) (fun _ => false) (dedup roots) t := by
  -- a specifier without an entry that has a redirect is walked as a redirect entry, its target is its successor
  have hy := fun {t} (h : g.redirectEff x = some t) =>
    C15.yield_redirect g (segmentOpts g) (fun _ => false) x t (Graph.redirectEff_eq_some.mp h).1 (Graph.redirectEff_eq_some.mp h).2
  refine ⟨Option.ext fun t => ⟨fun h => ?_, fun h => Graph.redirectEff_eq_some.mpr ⟨?_, ?_⟩⟩,
    fun t ht => .succ hx ((hy ht).2 ▸ List.mem_singleton_self t)⟩
  · exact Graph.redirectEff_eq_some.mpr (segment_redirect_faithful g roots hnew x t
      (mem_of_lookup_eq_some (Graph.redirectEff_eq_some.mp h).2)).symm
  · -- conversely, `x` has no entry in the segment: that would be an entry of the graph under `x`
    refine Option.eq_none_iff_forall_ne_some.mpr fun sl hsl => ?_
    rw [Graph.redirectEff_eq, segment_slot_faithful g roots hnew x sl (mem_of_lookup_eq_some hsl)] at h
    cases h
  · exact segment_redirect_lookup hnew (mem_walked.mpr ⟨hx, (hy h).1⟩)

/-- **the redirect `resolve` consults is the same, and leads to a reached specifier** -/
theorem segment_redirectEff_eq (hk : g.kind ≠ .TypesOnly) (x : Spec)
    (hx : Enq g (segmentOpts g) (fun _ => false) (dedup roots) x) :
    (g.segment roots).redirectEff x = g.redirectEff x ∧
    ∀ t, g.redirectEff x = some t → Enq g (segmentOpts g) (fun _ => false) (dedup roots) t :=
  segment_redirectEff_agrees hnew x hx

variable {g roots} in
theorem segment_resolve_agrees {x : Spec} (hx : Enq g (segmentOpts g) (fun _ => false) (dedup roots) x) :
    (g.segment roots).resolve x = g.resolve x :=
  -- the fuel is the same on both sides: the cap of the table
  resolveWith_agree (fuel := g.resolveFuel) (segment_redirectEff_agrees hnew) hx

end lookups

/-- `resolveLoop_agree` (Proofs/Resolve.lean) with every argument explicit -/
theorem resolveLoop_congr (r1 r2 : Spec → Option Spec) (cap : Option Nat) (P : Spec → Prop)
    (h : ∀ y, P y → r1 y = r2 y ∧ ∀ t, r2 y = some t → P t) :
    ∀ (fuel : Nat) (seen : List Spec) (cur : Spec), P cur →
      resolveLoop r1 cap fuel seen cur = resolveLoop r2 cap fuel seen cur :=
  fun _ _ _ => resolveLoop_agree h

/-- **redirect following in the segment ends where it ends in the original**, for every specifier
the walk from the requested roots reaches (roots, dependency targets, redirect targets) -/
theorem segment_resolve_eq (hnew : (dedup roots).all (fun r => g.roots.contains r) = false)
    (hk : g.kind ≠ .TypesOnly) (x : Spec)
    (hx : Enq g (segmentOpts g) (fun _ => false) (dedup roots) x) :
    (g.segment roots).resolve x = g.resolve x :=
  segment_resolve_agrees hnew hx

/-- the module lookup finds the same module, when the graph is not types-only and the end of the chain from `x`
is reached too (`hend`) -/
theorem segment_get_eq (hnew : (dedup roots).all (fun r => g.roots.contains r) = false)
    (hk : g.kind ≠ .TypesOnly) (x : Spec)
    (hx : Enq g (segmentOpts g) (fun _ => false) (dedup roots) x)
    (hend : Enq g (segmentOpts g) (fun _ => false) (dedup roots) (g.resolve x))
    (m : Mod) (hm : g.slot (g.resolve x) = some (.module m)) :
    (g.segment roots).slot ((g.segment roots).resolve x) = some (.module m) := by
  rw [segment_resolve_agrees hnew hx]
  exact segment_slot_lookup g roots hnew _ (.module m) (.module m)
    (mem_walked.mpr ⟨hend, yieldOf_module hm hk⟩) rfl

/-- non-vacuity: the segment of C15's demo graph at the redirect source `1` (not a root of the
graph) follows the redirect as the graph does -/
example : (C15.demo.segment [1]).resolve 1 = 2 ∧ C15.demo.resolve 1 = 2 ∧
    ((dedup [1]).all (fun r => C15.demo.roots.contains r) = false) ∧ C15.demo.kind ≠ .TypesOnly := by decide +kernel

/-- configured imports and the graph kind are carried over unchanged -/
theorem segment_keeps_kind_and_imports : (g.segment roots).kind = g.kind ∧ (g.segment roots).imports = g.imports := by
  unfold Graph.segment
  simp only
  split <;> exact ⟨rfl, rfl⟩

/-- non-vacuity on the C15 demo graph: segment at the redirect target `2` -/
example : (C15.demo.segment [2]).slots.map (·.1) = [2, 3] ∧ (C15.demo.segment [0]) = C15.demo := by
  constructor
  · decide +kernel
  · exact segment_clone _ _ (by decide +kernel)

end DG.C18
