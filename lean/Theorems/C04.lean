import DG.Sched
/-!
# C04 — build results do not depend on load completion order or on the run

Model: `DG/Sched.lean` on top of `DG/Build.lean`.  A schedule is any list of events
(`complete id` / `poll`); nothing is assumed about it.

* `sched_refines` — whatever the schedule, the builder state reached is the schedule-free loop
  body applied some number of times: completions never change the builder state, a poll either
  stutters (head not ready, or finished) or performs exactly the next iteration.
* `sched_irrelevant` — two schedules that both drive the build to its end reach the same state
  (graph, redirects, loader-call log, lockfile writes).
* `sched_eq_runLoop` — and that state is the result of the schedule-free `runLoop`.
The schedule is the only parameter the scheduled model has beyond the builder's: `iter` is a function of the state
(since the fix of finding F2 the dynamic-branch and deferred tables are iterated in insertion order, so the model has
no hash-order parameter).  This is how the model is built, not a theorem.
-/
namespace DG.C04
open DG DG.Build DG.Sched

variable (w : World) (o : Opts)

/-- the loop body guarded by the loop condition -/
def giter (st : St) : St := if quiescent st then st else iter w o st

def giterN : Nat → St → St
  | 0, st => st
  | n + 1, st => giterN n (giter w o st)

theorem giterN_add (a b : Nat) (st : St) : giterN w o (a + b) st = giterN w o b (giterN w o a st) := by
  induction a generalizing st with
  | zero => rw [Nat.zero_add]; rfl
  | succ a ih => rw [Nat.add_right_comm]; exact ih _

theorem giterN_of_quiescent (n : Nat) (st : St) (h : quiescent st = true) : giterN w o n st = st := by
  induction n with
  | zero => rfl
  | succ n ih => rw [giterN, giter, if_pos h, ih]

theorem giterN_quiescent_unique {st a b : St} (ha : ∃ n, a = giterN w o n st) (qa : quiescent a = true)
    (hb : ∃ m, b = giterN w o m st) (qb : quiescent b = true) : a = b := by
  obtain ⟨n, rfl⟩ := ha
  obtain ⟨m, rfl⟩ := hb
  rcases Nat.le_total n m with hle | hle
  · obtain ⟨d, rfl⟩ := Nat.exists_eq_add_of_le hle
    rw [giterN_add, giterN_of_quiescent w o d _ qa]
  · obtain ⟨d, rfl⟩ := Nat.exists_eq_add_of_le hle
    rw [giterN_add, giterN_of_quiescent w o d _ qb]

theorem step_st (s : SSt) (ev : Event) :
    (step w o s ev).st = s.st ∨ (step w o s ev).st = giter w o s.st := by
  fun_cases step w o s ev
  · exact .inl rfl
  · exact .inl rfl
  · exact .inr (by rw [giter, if_neg ‹_›])
  · exact .inl rfl
  · exact .inr (by rw [giter, if_neg ‹_›])

/-- **refinement**: every scheduled execution is a prefix of the schedule-free execution -/
theorem sched_refines (evs : List Event) (s : SSt) :
    ∃ n, (run w o evs s).st = giterN w o n s.st := by
  induction evs generalizing s with
  | nil => exact ⟨0, rfl⟩
  | cons ev evs ih =>
    obtain ⟨n, hn⟩ := ih (step w o s ev)
    have hrun : run w o (ev :: evs) s = run w o evs (step w o s ev) := rfl
    rw [hrun, hn]
    rcases step_st w o s ev with h | h
    · exact ⟨n, by rw [h]⟩
    · exact ⟨n + 1, by rw [h]; rfl⟩

/-- **order independence**: schedules that both finish the build finish it in the same state -/
theorem sched_irrelevant (evs1 evs2 : List Event) (s1 s2 : SSt) (h : s1.st = s2.st)
    (f1 : quiescent (run w o evs1 s1).st = true) (f2 : quiescent (run w o evs2 s2).st = true) :
    (run w o evs1 s1).st = (run w o evs2 s2).st :=
  giterN_quiescent_unique w o (sched_refines w o evs1 s1) f1 (h ▸ sched_refines w o evs2 s2) f2

theorem runLoop_is_giterN (fuel : Nat) (st out : St) (h : runLoop w o fuel st = some out) :
    (∃ k, out = giterN w o k st) ∧ quiescent out = true := by
  fun_induction runLoop w o fuel st
  next => cases h
  next fuel st hq => cases h; exact ⟨⟨0, rfl⟩, hq⟩
  next fuel st hq ih =>
    obtain ⟨⟨k, hk⟩, hqo⟩ := ih h
    exact ⟨⟨k + 1, by rw [giterN, giter, if_neg hq]; exact hk⟩, hqo⟩

/-- a scheduled build that finishes computes exactly the schedule-free result -/
theorem sched_eq_runLoop (evs : List Event) (s : SSt) (fin : quiescent (run w o evs s).st = true)
    (fuel : Nat) (out : St) (h : runLoop w o fuel s.st = some out) : (run w o evs s).st = out := by
  have ⟨hk, hq⟩ := runLoop_is_giterN w o fuel s.st out h
  exact giterN_quiescent_unique w o (sched_refines w o evs s) fin hk hq

/-- any two fuel budgets that suffice give the same result -/
theorem runLoop_fuel_irrelevant (f1 f2 : Nat) (st out1 out2 : St)
    (h1 : runLoop w o f1 st = some out1) (h2 : runLoop w o f2 st = some out2) : out1 = out2 := by
  have ⟨hk1, hq1⟩ := runLoop_is_giterN w o f1 st out1 h1
  have ⟨hk2, hq2⟩ := runLoop_is_giterN w o f2 st out2 h2
  exact giterN_quiescent_unique w o hk1 hq1 hk2 hq2

/-- a completion event never touches the builder state (so a load finishing early, late, or after
any number of polls is unobservable) -/
theorem complete_is_invisible (s : SSt) (id : Nat) : (step w o s (.complete id)).st = s.st := rfl

/-- a poll while the head request is outstanding leaves everything as it is -/
theorem poll_blocked (s : SSt) (r : Req) (rest : List Req) (hp : s.st.pending = r :: rest)
    (hr : s.ready.contains s.popped = false) (hq : quiescent s.st = false) :
    step w o s .poll = s := by
  simp only [step, hq, Bool.false_eq_true, if_false, hp, hr]

/-- the world of `C01.demoWorld`: three requests (`0`, `1` redirecting to `2`, `2`) -/
def demoWorld : World :=
  { resp := [(0, .module 0), (1, .redirect 2), (2, .module 2)],
    content := [(0, { mt := .TypeScript, schemeFile := true, decodable := true, parsable := true, wasmOk := true,
                      parsed := { deps := [{ text := 0, code := .ok 1 0, type := .none, dyn := false, attr := none,
                                             isAsset := false, sourcePhase := none }],
                                  typesDep := none, sourceMapDep := none } }),
                (2, { mt := .JavaScript, schemeFile := true, decodable := true, parsable := true, wasmOk := true,
                      parsed := { deps := [], typesDep := none, sourceMapDep := none } })],
    wasmExt := [], nodeSpecs := [], maxRedirects := 10, lockRemote := [] }

def demoOpts : Opts :=
  { kind := .All, isDynamic := false, skipDynamicDeps := false, unstableBytes := false,
    unstableText := false, unstableCss := false, unstableConfig := false }

def demoStart : SSt :=
  { st := load demoWorld demoOpts 0
      { spec := 0, range := none, spRef := none, isAsset := false, inDyn := false, isRoot := true, attr := none } {},
    popped := 0, ready := [] }

def keysOf (s : SSt) : List Spec × Bool := (s.st.slots.map (·.1), quiescent s.st)

-- non-vacuity: two different schedules end in the same graph
example :
    keysOf (run demoWorld demoOpts [.complete 0, .poll, .complete 1, .poll, .complete 2, .poll, .poll] demoStart)
      = ([0, 2], true) ∧
    keysOf (run demoWorld demoOpts
      [.poll, .complete 2, .complete 1, .complete 0, .poll, .poll, .poll, .poll, .poll] demoStart)
      = ([0, 2], true) := by
  decide +kernel

end DG.C04
