import Proofs.FcPkg
import Proofs.FcDeps
/-!
# C12 — fast check is all-or-nothing per package and cache-transparent

Model: `DG/FcPkg.lean` (one package and its cache entry), `DG/FcDeps.lean` (the queue of packages).
-/
namespace DG.C12
open DG.FcPkg

/-- **all or nothing**: without a cache, either no module of the public API has a diagnostic, every
one of them gets an emitted module and nothing carries diagnostics — or some has one, no module at
all gets an emitted module and every entrypoint carries the diagnostics -/
theorem all_or_nothing (p : Pkg) :
    ((∀ m ∈ p.mods, m.diag = false) ∧ uncached p = p.mods.map fun m => (m.spec, Res.output)) ∨
    ((∃ m ∈ p.mods, m.diag = true) ∧ outputs (uncached p) = [] ∧
      ∃ ds, ds ≠ [] ∧ uncached p = p.entrypoints.map fun e => (e, Res.diags ds)) := by
  unfold uncached
  rcases transformPackage_cases p.stopAtFirst p.mods with ⟨h, e⟩ | ⟨h, oks, a, b, e⟩ <;> rw [e]
  · exact .inl ⟨h, by simp [uncachedOf]⟩
  · exact .inr ⟨h, outputs_diags _ _, a :: b, List.cons_ne_nil a b, rfl⟩

/-- **a warm cache is transparent for a passing package**: reading back what the cache-less run
stored gives exactly the cache-less result -/
theorem cached_result_of_pass (hash : Nat → Nat) (entrypoints oks : List Nat) :
    cachedResult entrypoints (cacheItemsOf hash (oks, [])) = uncachedOf entrypoints (oks, []) := by
  simp [cacheItemsOf, uncachedOf, cachedResult, List.filter_map, Function.comp_def, CItem.isDiag,
    filter_tt, filter_ff]

/-- **a warm cache is all-or-nothing for a failing package**: no module is emitted and every
entrypoint carries the (cached) diagnostics, naming the modules listed in the entry -/
theorem cached_result_of_fail (hash : Nat → Nat) (entrypoints oks : List Nat) (e : Nat) (es : List Nat) :
    cachedResult entrypoints (cacheItemsOf hash (oks, e :: es)) =
      entrypoints.map fun x => (x, Res.diags (oks ++ e :: es)) := by
  have : ∀ l : List Nat, (l.map fun s => (s, CItem.diagnostic (hash s))).map (·.1) = l := by
    simp [Function.comp_def]
  simp only [cacheItemsOf, cachedResult, List.filter_map, Function.comp_def, CItem.isDiag, this,
    Bool.not_true, filter_tt, filter_ff, List.map_nil, List.nil_append]
  cases oks <;> rfl

/-- **a cache never changes which modules have emitted output**: reading back what an uncached
run stored gives the same set of emitted modules, whether the run passed or failed -/
theorem cached_outputs_of (hash : Nat → Nat) (entrypoints : List Nat) (r : List Nat × List Nat) :
    outputs (cachedResult entrypoints (cacheItemsOf hash r)) = outputs (uncachedOf entrypoints r) := by
  obtain ⟨oks, _ | ⟨a, b⟩⟩ := r
  · rw [cached_result_of_pass]
  · rw [cached_result_of_fail, uncachedOf, outputs_diags, outputs_diags]

theorem cached_outputs_eq (p : Pkg) : outputs (cachedResult p.entrypoints (cacheItems p)) = outputs (uncached p) :=
  cached_outputs_of _ _ _

/-- **the statement for a warm run**: the result read from the package's own entry is the
cache-less result when the package passes, and diagnostics on every entrypoint (and nothing else)
when it fails -/
theorem cached_all_or_nothing (p : Pkg) :
    ((∀ m ∈ p.mods, m.diag = false) ∧ cachedResult p.entrypoints (cacheItems p) = uncached p) ∨
    ((∃ m ∈ p.mods, m.diag = true) ∧
      ∃ ds, ds ≠ [] ∧ cachedResult p.entrypoints (cacheItems p) = p.entrypoints.map fun e => (e, Res.diags ds)) := by
  unfold cacheItems uncached
  rcases transformPackage_cases p.stopAtFirst p.mods with ⟨h, e⟩ | ⟨h, oks, a, b, e⟩ <;> rw [e]
  · exact .inl ⟨h, cached_result_of_pass _ _ _⟩
  · exact .inr ⟨h, oks ++ a :: b, by simp, cached_result_of_fail _ _ _ _ _⟩

/-- the entry stored is always the one of the current sources unless a valid one was kept -/
theorem run_cache_after (p : Pkg) (cache : Option (List (Nat × CItem))) :
    (runWith cache p).2 = some (cacheItems p) ∨ (∃ items, cache = some items ∧ valid items (hashOf p) = true ∧
      (runWith cache p).2 = some items) :=
  (runWith_cases p cache).imp (congrArg Prod.snd) fun ⟨items, hi, hv, h⟩ => ⟨items, hi, hv, congrArg Prod.snd h⟩

/-- the assumption under which hashing the listed modules is enough: whenever the entry of one
state of the package passes the hash check in another state, the two states analyse alike -/
def Coherent (all : List Pkg) : Prop :=
  ∀ q ∈ all, ∀ p ∈ all, valid (cacheItems q) (hashOf p) = true → cacheItems q = cacheItems p

/-- **histories**: thread one cache through any sequence of states of a package (builds with edits
in between); every run emits exactly the modules of the cache-less run on the sources of that
moment -/
theorem history_outputs (all : List Pkg) (hco : Coherent all) (ps : List Pkg) (hps : ∀ p ∈ ps, p ∈ all)
    (c : Option (List (Nat × CItem))) (hc : c = none ∨ ∃ q ∈ all, c = some (cacheItems q)) :
    (history c ps).map outputs = ps.map fun p => outputs (uncached p) := by
  induction ps generalizing c with
  | nil => rfl
  | cons p ps ih =>
    have hp : p ∈ all := hps p (.head _)
    have ih := ih fun x hx => hps x (.tail _ hx)
    rw [history, List.map_cons, List.map_cons]
    -- the entry handed on is again the entry of a state of the package
    rcases runWith_cases p c with h | ⟨items, rfl, hv, h⟩ <;> rw [h]
    · rw [ih _ (.inr ⟨p, hp, rfl⟩)]
    · obtain ⟨q, hq, hcq⟩ := hc.resolve_left nofun
      cases hcq
      rw [ih _ (.inr ⟨q, hq, rfl⟩), hco q hq p hp hv, cached_outputs_eq]

/-- the package of finding F4 (fixed): the second module has a diagnostic and the second entrypoint
is a third module — with and without a cache both entrypoints carry diagnostics -/
def f4 : Pkg :=
  { entrypoints := [0, 2], stopAtFirst := true,
    mods := [{ spec := 0, hash := 10, diag := false }, { spec := 1, hash := 11, diag := true },
             { spec := 2, hash := 12, diag := false }] }

theorem warm_cache_keeps_diagnostics_on_entrypoints :
    uncached f4 = [(0, .diags [1]), (2, .diags [1])] ∧
    cachedResult f4.entrypoints (cacheItems f4) = [(0, .diags [0, 1]), (2, .diags [0, 1])] := by
  decide +kernel

example : Coherent [f4] := by
  intro q hq p hp _
  simp only [List.mem_singleton] at hq hp
  rw [hq, hp]

/-- an edit of a listed module invalidates the entry -/
theorem stale_entry_recomputed (p : Pkg) (items : List (Nat × CItem)) (s : Nat) (i : CItem)
    (hm : (s, i) ∈ items) (hh : hashOf p s ≠ i.hash) :
    runWith (some items) p = (uncached p, some (cacheItems p)) := by
  refine (runWith_cases p (some items)).resolve_right fun ⟨_, e, hv, _⟩ => ?_
  cases e
  exact hh (beq_iff_eq.mp (List.all_eq_true.mp hv (s, i) hm))

section Packages
open DG.FcDeps

/-- the packages taken from the queue are exactly those reachable from the top-level packages
through recorded dependencies — whatever the cache holds -/
theorem analysed_is_dependency_closure (w : World) (top : List Nat) (fuel : Nat) (s : St)
    (h : run w fuel (init top) = some s) (q : Nat) : q ∈ s.analysed ↔ Reach w top q := by
  obtain ⟨inv, hq⟩ := inv_run (inv_init w top) h
  have done : ∀ x ∈ s.seen, x ∈ s.analysed := fun x hx =>
    (inv.placed x hx).resolve_right fun h' => by rw [hq] at h'; cases h'
  refine ⟨fun hqa => inv.reach q (inv.seenA q hqa), fun hr => ?_⟩
  induction hr with
  | top ht => exact done _ (inv.topSeen _ ht)
  | @dep p q _ hqr ih =>
    by_cases hne : q = p
    · exact hne ▸ ih
    · exact done _ (inv.closed p ih q hqr hne)

/-- **cache transparency at the level of packages**: if every package the trace of a package enters
is recorded as its dependency, the packages that end up with fast check data are the same for
every cache state (all entries valid, none, or any mixture after edits) -/
theorem packages_cache_transparent (w : World) (top : List Nat) (fuel : Nat) (s : St)
    (hrec : ∀ p q, q ∈ (w.pkg p).touched → q = p ∨ q ∈ (w.pkg p).recorded)
    (h : run w fuel (init top) = some s) (stale stale' : Nat → Bool) (q : Nat) :
    q ∈ outputs w stale s ↔ q ∈ outputs w stale' s := by
  have hs := analysed_is_dependency_closure w top fuel s h
  rw [cache_transparent hrec hs stale, cache_transparent hrec hs stale']

/-- finding F33 (repaired in /repo): a package whose trace enters another package without recording
it — with a cold cache the other package has fast check data, with a warm cache it has none -/
theorem unrecorded_dependency_breaks_cache :
    let w : World := [{ touched := [1], recorded := [] }, { touched := [], recorded := [] }]
    ∃ s, run w 5 (init [0]) = some s ∧
      (1 ∈ outputs w (fun _ => true) s) ∧ ¬ (1 ∈ outputs w (fun _ => false) s) := by
  exact ⟨{ queue := [], seen := [0], analysed := [0] }, by decide +kernel⟩

/-- the hypothesis is satisfiable and the run finishes: a diamond, both top-level packages star-re-export
the third -/
example :
    let w : World := [{ touched := [2], recorded := [2] }, { touched := [2], recorded := [2] }, { touched := [], recorded := [] }]
    (run w 5 (init [0, 1])).map (·.analysed) = some [0, 1, 2] := by decide +kernel

/-- the queue of packages is always emptied: every package is taken from it at most once, and only
finitely many are ever recorded -/
theorem package_queue_terminates (w : World) (top : List Nat) : ∃ fuel s, run w fuel (init top) = some s :=
  ⟨_, run_terminates w _ (init top) (Nat.le_refl _)⟩

/-- **cache transparency of a finished run, which exists**: if every package a trace enters is recorded as a
dependency, some run finishes, and for it the packages with fast check data are the same for every cache state -/
theorem packages_cache_transparent_total (w : World) (top : List Nat)
    (hrec : ∀ p q, q ∈ (w.pkg p).touched → q = p ∨ q ∈ (w.pkg p).recorded) :
    ∃ fuel s, run w fuel (init top) = some s ∧
      ∀ (stale stale' : Nat → Bool) (q : Nat), q ∈ outputs w stale s ↔ q ∈ outputs w stale' s := by
  obtain ⟨fuel, s, h⟩ := package_queue_terminates w top
  exact ⟨fuel, s, h, packages_cache_transparent w top fuel s hrec h⟩

end Packages

end DG.C12
