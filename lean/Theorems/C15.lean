import Proofs.WalkTerm
/-!
# C15 — a walk visits exactly the selected reachable set, each entry once

Model: `DG/Walk.lean` (`walkLoop`, the state machine of `ModuleEntryIterator::next`).
Specification: `DG.Enq` (Proofs/WalkInv.lean) — the set of specifiers the statement says are
enqueued — and `DG.yieldOf` — what is yielded for a specifier (module / error / redirect /
nothing), a function of the graph, the options and the specifier alone.

All theorems hold for every graph (well-formed or not), every option set, every client skip
predicate and every duplicate-free root list.
-/
namespace DG.C15
open DG Tables

variable (g : Graph) (o : WalkOpts) (skip : Spec → Bool) (roots : List Spec)

/-- the walk never runs out of the fuel `walkFuel` gives it -/
theorem walk_terminates (hnd : roots.Nodup) : (g.walk? o roots skip).isSome :=
  (walk_spec g o skip hnd).ended

/-- **exactness**: an entry is yielded iff the statement selects it. -/
theorem walk_eq_visits (hnd : roots.Nodup) (x : Spec) (e : Entry) :
    (x, e) ∈ g.walk o roots skip ↔ (Enq g o skip roots x ∧ yieldOf g o x = some e) :=
  (walk_spec g o skip hnd).mem_iff x e

/-- **each entry once**: the yielded specifiers are pairwise distinct. -/
theorem walk_nodup (hnd : roots.Nodup) : ((g.walk o roots skip).map (·.1)).Nodup :=
  (walk_spec g o skip hnd).nodup

/-- the entry yielded for a specifier is determined by the specifier (so "the set of
specifiers" and "the set of entries" carry the same information) -/
theorem walk_entry_unique (hnd : roots.Nodup) (x : Spec) (e e' : Entry)
    (h : (x, e) ∈ g.walk o roots skip) (h' : (x, e') ∈ g.walk o roots skip) :
    yieldOf g o x = some e ∧ yieldOf g o x = some e' :=
  ⟨((walk_eq_visits g o skip roots hnd x e).mp h).2, ((walk_eq_visits g o skip roots hnd x e').mp h').2⟩

/-- the set yielded depends on the roots only as a set: reordering roots (or dependencies'
discovery order) never changes what is visited -/
theorem walk_order_irrelevant_for_set (roots' : List Spec) (hnd : roots.Nodup) (hnd' : roots'.Nodup)
    (hsame : ∀ x, x ∈ roots ↔ x ∈ roots') (x : Spec) (e : Entry) :
    (x, e) ∈ g.walk o roots skip ↔ (x, e) ∈ g.walk o roots' skip := by
  rw [walk_eq_visits g o skip roots hnd, walk_eq_visits g o skip roots' hnd']
  have key {r r' : List Spec} (hsub : ∀ x, x ∈ r → x ∈ r') {y} (hy : Enq g o skip r y) : Enq g o skip r' y := by
    induction hy with
    | root h => exact .root (hsub _ h)
    | imp h => exact .imp h
    | typesDep _ ht ih => exact ih.typesDep ht
    | succ _ ht ih => exact ih.succ ht
  exact and_congr_left fun _ => ⟨key fun x => (hsame x).mp, key fun x => (hsame x).mpr⟩

/-- an error slot is yielded as it stands, whatever the redirect table says about the specifier, and pushes
nothing -/
theorem yield_error (s : Spec) (mi c es) (h : g.slot s = some (.err mi c es)) :
    yieldOf g o s = some (.err mi c es) ∧ push1 g o s = [] := by
  simp [yieldOf, push1, visitInfo, h]

/-- redirects are transparent: a slot-less redirect source is yielded as a redirect entry and
its target is what gets enqueued next (unless the client skips it) -/
theorem yield_redirect (s t : Spec) (hs : g.slot s = none) (hr : g.redirect s = some t) :
    yieldOf g o s = some (.redirect t) ∧ succOf g o skip s = (if skip s then [] else [t]) := by
  have hy : yieldOf g o s = some (.redirect t) := by simp [yieldOf, visitInfo, hs, hr]
  refine ⟨hy, ?_⟩
  simp [succOf, hy, succs]

/-- pending entries and unknown specifiers yield nothing and enqueue nothing -/
theorem yield_nothing (s : Spec) (h : g.slot s = some .pending ∨ (g.slot s = none ∧ g.redirect s = none)) :
    yieldOf g o s = none ∧ push1 g o s = [] ∧ succOf g o skip s = [] := by
  rcases h with h | ⟨h1, h2⟩
  · simp [yieldOf, push1, succOf, visitInfo, h]
  · simp [yieldOf, push1, succOf, visitInfo, h1, h2]

/-- when types are not included every module entry is yielded as it is, and no types
dependency is enqueued -/
theorem yield_module_no_types (s : Spec) (m : Mod) (h : g.slot s = some (.module m))
    (hk : o.kind.includeTypes = false) :
    yieldOf g o s = some (.module m) ∧ push1 g o s = [] := by
  cases m <;> simp [yieldOf, push1, visitInfo, h, hk]

/-- in a types-only walk an untyped module with a resolved types dependency is *replaced* by
that dependency: nothing is yielded for it, its types dependency is enqueued -/
theorem typesOnly_replaces_untyped (s t r : Spec) (mt deps td fc)
    (h : g.slot s = some (.module (.js mt deps (some td) fc))) (htd : td.res = .ok t r)
    (hk : o.kind = .TypesOnly) :
    yieldOf g o s = none ∧ push1 g o s = [t] := by
  simp [yieldOf, push1, visitInfo, h, htd, hk, GraphKind.includeTypes]

/-- with types included (and not types-only) the module is yielded *and* its types dependency
is enqueued -/
theorem all_keeps_module_and_types (s t r : Spec) (mt deps td fc)
    (h : g.slot s = some (.module (.js mt deps (some td) fc))) (htd : td.res = .ok t r)
    (hk : o.kind = .All) :
    yieldOf g o s = some (.module (.js mt deps (some td) fc)) ∧ push1 g o s = [t] := by
  simp [yieldOf, push1, visitInfo, h, htd, hk, GraphKind.includeTypes]

theorem depTargets_with_types (d : Dep) (kind : GraphKind) (hk : kind.includeTypes = true) (t : Spec) :
    t ∈ depTargets kind d ↔ (d.code.okSpec? = some t ∨ d.type.okSpec? = some t) := by
  rw [mem_depTargets, hk, and_iff_right rfl]

/-- a skipped module contributes no dependencies -/
theorem skip_cuts_dependencies (s : Spec) (h : skip s = true) : succOf g o skip s = [] := by
  unfold succOf
  split <;> simp [h]

/-- fast-check dependencies are used exactly when requested, types are included and the module
is checkable -/
theorem fast_check_deps_when (key : Spec) (m : Mod) :
    walkDeps o key m =
      (if o.kind.includeTypes && isCheckable o key m.mediaType && o.preferFastCheck
       then m.depsPreferFastCheck else m.deps) := by
  simp [walkDeps]

/-- an error *attached* to a visited entry `(x, e)`: one the entry contributes in place, or — for
a missing entry visited while dynamic imports are followed — the entry's own error, which is
listed when no visited import surfaced that entry in place -/
def Attached (x : Spec) (e : Entry) (err : ErrOut) : Prop :=
  err ∈ entryErrors g o x e ∨
  (o.followDynamic = true ∧ ∃ code es, e = .err true code es ∧ err = .moduleErr code ∧
    ¬ ∃ y ey, Enq g o (fun _ => false) roots y ∧ yieldOf g o y = some ey ∧ x ∈ entrySurfaced g o y ey)

theorem mem_surfacedIn (hnd : roots.Nodup) (k : Spec) :
    k ∈ surfacedIn g o (g.walk o roots) ↔
      ∃ y ey, Enq g o (fun _ => false) roots y ∧ yieldOf g o y = some ey ∧ k ∈ entrySurfaced g o y ey := by
  simp only [surfacedIn, List.mem_flatMap, Prod.exists, walk_eq_visits g o _ roots hnd, and_assoc]

theorem deferredError_eq_some (sf : List Spec) (x : Spec) (e : Entry) (err : ErrOut) :
    deferredError o sf (x, e) = some err ↔
      (o.followDynamic = true ∧ ∃ code es, e = .err true code es ∧ err = .moduleErr code ∧ x ∉ sf) := by
  unfold deferredError
  split
  next k c es heq =>
    cases heq
    simp only [Option.ite_none_right_eq_some, Bool.and_eq_true, Bool.not_eq_true', List.contains_eq_mem,
      decide_eq_false_iff_not, Option.some.injEq]
    exact ⟨fun ⟨⟨hf, hx⟩, he⟩ => ⟨hf, c, es, rfl, he.symm, hx⟩, fun ⟨hf, _, _, rfl, he, hx⟩ => ⟨⟨hf, hx⟩, he.symm⟩⟩
  next hne => exact ⟨(nomatch ·), fun ⟨_, c, es, h, _⟩ => (hne x c es (h ▸ rfl)).elim⟩

/-- **the error listing contains precisely the errors attached to what the walk visited** -/
theorem errors_eq_attached (hnd : roots.Nodup) (err : ErrOut) :
    err ∈ g.errors o roots ↔
      ∃ x e, Enq g o (fun _ => false) roots x ∧ yieldOf g o x = some e ∧ Attached g o roots x e err := by
  -- `errors` is, entry by entry of the walk, what the entry contributes in place, then what is deferred: read
  -- through the walk's characterisation both sides are one `∃ x e, Enq … ∧ yieldOf … ∧ (in place ∨ deferred)`;
  -- the last three rewrites pull the disjunction of the left side under the quantifiers
  simp only [Graph.errors, Tables.errorsReportSkippedMissing, if_true, List.mem_append, List.mem_flatMap,
    List.mem_reverse, List.mem_filterMap, Prod.exists, walk_eq_visits g o _ roots hnd, deferredError_eq_some,
    mem_surfacedIn g o roots hnd, Attached, ← exists_or, ← and_or_left, and_assoc]

/-- non-vacuity: a concrete graph with a redirect, a types dependency and a dynamic edge -/
def demo : Graph :=
  { kind := .All, roots := [0],
    slots := [(0, .module (.js .TypeScript
                [{ text := 0, fileText := false, code := .ok 1 0, type := .none, dyn := false },
                 { text := 1, fileText := false, code := .ok 4 1, type := .none, dyn := true }]
                none none)),
              (2, .module (.js .JavaScript [] (some { text := 2, fileText := false, res := .ok 3 2 }) none)),
              (3, .module (.js .Dts [] none none)),
              (4, .err true 7 4)],
    redirects := [(1, 2)], imports := [], schemes := [] }

def demoOpts (k : GraphKind) (fd : Bool) : WalkOpts :=
  { kind := k, followDynamic := fd, checkJs := fun _ => true, preferFastCheck := false }

example : (demo.walk (demoOpts .All false) [0]).map (·.1) = [0, 1, 2, 3] := by decide +kernel
example : (demo.walk (demoOpts .TypesOnly true) [0]).map (·.1) = [0, 1, 3, 4] := by decide +kernel
example : (demo.walk (demoOpts .CodeOnly false) [0]).map (·.1) = [0, 1, 2] := by decide +kernel

end DG.C15
