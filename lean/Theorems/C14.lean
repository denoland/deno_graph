import Proofs.Resolve
import DG.Walk
/-!
# C14 — redirect following terminates and all lookups agree with the walk

Model: `DG/Resolve.lean` (`resolve`, `get`, `contains`, `try_get`, `specifiers`,
`resolve_dependency_from_dep`; `try_get_prefer_types` is modelled there too, no theorem speaks of it),
`DG/Walk.lean` (`visit`, `expandPrev`).

`WalkReaches g k s e` is what the walk does for one specifier, read off `visit`/`expandPrev`.
-/
namespace DG.C14
open DG Tables

/-- the walk's own chain: redirect entries are only consulted when there is no slot -/
inductive WalkReaches (g : Graph) : Nat → Spec → Spec → Prop where
  | stop {s} : (g.slot s ≠ none ∨ g.redirect s = none) → WalkReaches g 0 s s
  | hop {k s t e} : g.slot s = none → g.redirect s = some t → WalkReaches g k t e →
      WalkReaches g (k + 1) s e

/-- `WalkReaches.hop` as the iterator takes it, first half: a slot-less redirect source is yielded as a
redirect entry and pushes nothing -/
theorem visit_redirect (g : Graph) (o : WalkOpts) (s t : Spec) (st : WalkState)
    (hs : g.slot s = none) (hr : g.redirect s = some t) :
    visit g o s st = (st, some (.redirect t)) := by
  simp [visit, visitInfo, pushAll, hs, hr]

/-- `WalkReaches.hop`, second half: on the call after a redirect entry was yielded its target goes to the front
of the queue (unless seen before) -/
theorem expandPrev_redirect (o : WalkOpts) (st : WalkState) (s t : Spec)
    (hp : st.prev = some (s, .redirect t)) :
    expandPrev o st = ({ st with prev := none } : WalkState).pushFront t := by
  simp [expandPrev, hp, succs, pushAll]

/-- `WalkReaches.stop` as the iterator takes it: an error slot is yielded as it stands, whatever the redirect
table says about the specifier -/
theorem visit_err_slot (g : Graph) (o : WalkOpts) (s : Spec) (st : WalkState) (m c es)
    (hs : g.slot s = some (.err m c es)) :
    visit g o s st = (st, some (.err m c es)) := by
  simp [visit, visitInfo, pushAll, hs]

/-- what `try_get` should answer at the specifier where the walk stops -/
def endResult (g : Graph) (e : Spec) : TryGet :=
  match g.slot e with
  | some (.module _) => .module e
  | some (.err _ c _) => .error c
  | _ => .none

/-- the walk's chain is exactly the chain `resolve` follows: redirect entries of specifiers that
have no entry of their own (this is where the guard found in the source, table
`resolveStopsAtEntry`, is used: without it the proof does not go through) -/
theorem hopsTo_of_walkReaches {g : Graph} {k s e} (h : WalkReaches g k s e) :
    HopsTo g.redirectEff k s e := by
  induction h with
  | stop hs => exact .done (Graph.redirectEff_eq_none.mpr hs)
  | hop hs hr _ ih => exact .hop (Graph.redirectEff_eq_some.mpr ⟨hs, hr⟩) ih

theorem walkReaches_of_hopsTo {g : Graph} {k s e} (h : HopsTo g.redirectEff k s e) :
    WalkReaches g k s e := by
  induction h with
  | done hn => exact .stop (Graph.redirectEff_eq_none.mp hn)
  | hop hr _ ih => exact .hop (Graph.redirectEff_eq_some.mp hr).1 (Graph.redirectEff_eq_some.mp hr).2 ih

/-- resolve is idempotent on terminating chains within the cap -/
theorem resolve_idempotent_on_chain (g : Graph) (k : Nat) (s e : Spec)
    (h : WalkReaches g k s e) (hk : k ≤ 9) : g.resolve (g.resolve s) = g.resolve s := by
  have h := hopsTo_of_walkReaches h
  rw [Graph.resolve_of_hopsTo h hk]
  exact Graph.resolve_of_hopsTo (.done h.end_no_redirect) (Nat.zero_le 9)

/-- **lookups agree with the walk** (partial only in the length of the chain: ≤ 9 hops, finding
F1; nothing is assumed about where entries sit — before the repair of F12/F35 the end of the
chain had to be a specifier without a redirect entry). -/
theorem lookup_agrees_partial (g : Graph) (k : Nat) (s e : Spec)
    (hw : WalkReaches g k s e) (hk : k ≤ 9) :
    g.tryGet s = endResult g e ∧
    g.get s = (if g.isModule e then some e else none) ∧
    g.contains s = g.isModule e := by
  rcases h : g.slot e with _ | _ | _ | _ <;>
    simp [Graph.tryGet, Graph.get, Graph.contains, Graph.isModule, endResult,
      Graph.resolve_of_hopsTo (hopsTo_of_walkReaches hw) hk, h]

/-- the hypotheses of `lookup_agrees_partial` are satisfiable: a 2-hop chain to a module -/
def g2 : Graph :=
  { kind := .All, roots := [0], slots := [(2, .module .json)], redirects := [(0, 1), (1, 2)],
    imports := [], schemes := [] }

example : WalkReaches g2 2 0 2 ∧ g2.redirect 2 = none ∧ g2.tryGet 0 = .module 2 := by
  refine ⟨?_, by decide +kernel, by decide +kernel⟩
  exact .hop (t := 1) (by decide +kernel) (by decide +kernel)
    (.hop (t := 2) (by decide +kernel) (by decide +kernel) (.stop (Or.inl (by decide +kernel))))

/-- findings F12 / F35 (repaired): an entry stored under a redirect source — an error recorded on
a member of a redirect chain, or a module the loader reported under a specifier a stale lockfile
redirects — is what the lookups return, as the walk does.  `1` has a module and the table still
says `1 → 2`. -/
def gStale : Graph :=
  { kind := .All, roots := [0], slots := [(1, .module .json)], redirects := [(0, 1), (1, 2)],
    imports := [], schemes := [] }

theorem entry_on_redirect_source_is_found :
    WalkReaches gStale 1 0 1 ∧ gStale.tryGet 0 = .module 1 ∧ gStale.get 1 = some 1 ∧
    gStale.resolve (gStale.resolve 0) = gStale.resolve 0 := by
  refine ⟨?_, by decide +kernel⟩
  exact .hop (t := 1) (by decide +kernel) (by decide +kernel) (.stop (Or.inl (by decide +kernel)))

/-- a chain of `n` redirects `0 → 1 → … → n` ending in a JSON module at `n` -/
def chainGraph (n : Nat) : Graph :=
  { kind := .All, roots := [0], slots := [(n, .module .json)],
    redirects := (List.range n).map fun i => (i, i + 1), imports := [], schemes := [] }

/-- full statement: lookups agree with the walk for every terminating chain -/
def lookup_agrees_statement : Prop :=
  ∀ (g : Graph) (k : Nat) (s e : Spec), WalkReaches g k s e → g.tryGet s = endResult g e

/-- F1: with 10 hops the walk reaches the module, the lookups do not. -/
theorem redirect_cap_counterexample :
    (chainGraph 10).tryGet 0 = .none ∧ endResult (chainGraph 10) 10 = .module 10 ∧
    (chainGraph 10).resolve 0 = 9 := by decide +kernel

/-- `resolve` idempotent for every graph and specifier -/
def resolve_idempotent_statement : Prop := ∀ (g : Graph) (s : Spec), g.resolve (g.resolve s) = g.resolve s

def cycleGraph : Graph :=
  { kind := .All, roots := [0], slots := [], redirects := [(0, 1), (1, 0)], imports := [], schemes := [] }

/-- on a redirect cycle `resolve` is not idempotent (lockfile-seeded or loader cycles) -/
theorem resolve_cycle_counterexample : ¬ resolve_idempotent_statement :=
  fun h => absurd (h cycleGraph 0) (by decide +kernel)

/-- `specifiers()` lists every redirect source under the entry its target resolves to, however
many hops away (finding F1b, repaired) -/
theorem specifiers_lists_redirect_sources (g : Graph) (k t : Spec) (m : Mod)
    (hk : (k, t) ∈ g.redirects) (ht : g.slot (g.resolve t) = some (.module m)) :
    SpecEntry.module k (g.resolve t) ∈ g.specifiers :=
  Graph.mem_specifiers.mpr (.inr ⟨k, t, hk, _, ht, rfl⟩)

theorem specifiers_lists_redirect_sources_err (g : Graph) (k t : Spec) (mi c es)
    (hk : (k, t) ∈ g.redirects) (ht : g.slot (g.resolve t) = some (.err mi c es)) :
    SpecEntry.error k c ∈ g.specifiers :=
  Graph.mem_specifiers.mpr (.inr ⟨k, t, hk, _, ht, rfl⟩)

/-- every slot that is not pending is listed under its own key -/
theorem specifiers_lists_slots (g : Graph) (k : Spec) (m : Mod)
    (hk : (k, Slot.module m) ∈ g.slots) : SpecEntry.module k k ∈ g.specifiers :=
  Graph.mem_specifiers.mpr (.inl ⟨k, _, hk, rfl⟩)

/-- a redirect source two hops away: source `0` of `0 → 1 → 2` is listed at `2` (it was missing before the
repair of F1b) -/
theorem specifiers_multihop_example :
    SpecEntry.module 0 2 ∈ g2.specifiers ∧ SpecEntry.module 1 2 ∈ g2.specifiers := by
  decide +kernel

/-- with `prefer_types`, a JS module with a loaded types dependency resolves to the types module -/
theorem resdep_prefers_types (g : Graph) (d : Dep) (u t rng : Spec) (mt deps td fc)
    (hu : (d.type.okSpec?.or d.code.okSpec?) = some u)
    (hm : g.slot (g.resolve u) = some (.module (.js mt deps (some td) fc)))
    (htd : td.res = .ok t rng) (hl : g.isModule (g.resolve t) = true) :
    g.resolveDependencyFromDep d true = some (g.resolve t) := by
  simp [Graph.resolveDependencyFromDep, hu, hm, htd, hl]

/-- without a loaded types module the code module is returned -/
theorem resdep_code_when_types_not_loaded (g : Graph) (d : Dep) (u t rng : Spec) (mt deps td fc)
    (hu : (d.type.okSpec?.or d.code.okSpec?) = some u)
    (hm : g.slot (g.resolve u) = some (.module (.js mt deps (some td) fc)))
    (htd : td.res = .ok t rng) (hl : g.isModule (g.resolve t) = false) :
    g.resolveDependencyFromDep d true = some (g.resolve u) := by
  simp [Graph.resolveDependencyFromDep, hu, hm, htd, hl]

/-- without `prefer_types` the answer is the resolved code (or, failing that, type) target
exactly when a module is loaded there -/
theorem resdep_no_preference (g : Graph) (d : Dep) (u : Spec)
    (hu : (d.code.okSpec?.or d.type.okSpec?) = some u) :
    g.resolveDependencyFromDep d false = (if g.isModule (g.resolve u) then some (g.resolve u) else none) := by
  rcases h : g.slot (g.resolve u) with _ | sl
  · simp [Graph.resolveDependencyFromDep, Graph.isModule, hu, h]
  · cases sl <;> simp [Graph.resolveDependencyFromDep, Graph.isModule, hu, h]

theorem resdep_none (g : Graph) (d : Dep) (p : Bool)
    (hc : d.code.okSpec? = none) (ht : d.type.okSpec? = none) :
    g.resolveDependencyFromDep d p = none := by
  cases p <;> simp [Graph.resolveDependencyFromDep, hc, ht]

end DG.C14
