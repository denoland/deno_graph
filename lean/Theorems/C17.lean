import Proofs.Prune
/-!
# C17 — pruning types from a full graph gives the code-only graph

Model: `DG/Prune.lean` (`prune_types` as the insertion-ordered seen/pending worklist) on the
builder model's graph.  Proved for every graph: the pruned graph, key by key, is the part of the original that is
reachable from the roots through redirects and code edges (`PReach`), entries in pruned form, redirects as they were
(the `pruned_*` theorems, from `pruneLoop_final` in `Proofs/Prune.lean`); what a visited entry looks like afterwards
(no type side, no types dependency; code side, dynamic flag and text untouched); per iteration, that an entry is visited
and its redirect followed wherever it sits.  The equality with a code-only build is decided on every run by
correspondence (model prune = implementation prune) plus the implementation-side comparison of `prune_types(All)` with
a `CodeOnly` build; the discrepancies found there are genuine: findings F6, F17, F18 (open) and F15, F16, F36 (repaired
in /repo).
-/
namespace DG.C17
open DG DG.Build DG.Prune

/-- **no remaining type resolutions** on a visited dependency -/
theorem pruneDep_no_type (d : BDep) : (pruneDep d).type = .none := rfl

/-- the code side, dynamic flag, text and attribute of a visited dependency are untouched -/
theorem pruneDep_keeps_code (d : BDep) :
    (pruneDep d).code = d.code ∧ (pruneDep d).dyn = d.dyn ∧ (pruneDep d).text = d.text ∧
    (pruneDep d).attr = d.attr := ⟨rfl, rfl, rfl, rfl⟩

/-- a visited JS module has no types dependency and no type side on any dependency -/
theorem pruneSlot_js (mt : Tables.MediaType) (deps : List BDep) (td sm : Option Res) :
    pruneSlot (.module (.js mt deps td sm)) = .module (.js mt (deps.map pruneDep) none sm) ∧
    ∀ d ∈ deps.map pruneDep, d.type = .none := by
  refine ⟨rfl, ?_⟩
  intro d hd
  obtain ⟨d0, _, rfl⟩ := List.mem_map.mp hd
  rfl

theorem pruneSlot_wasm (deps : List BDep) :
    pruneSlot (.module (.wasm deps)) = .module (.wasm (deps.map pruneDep)) := rfl

/-- errors, JSON, node, external entries are kept as they are -/
theorem pruneSlot_other (sl : BSlot) (h1 : ∀ mt d t sm, sl ≠ .module (.js mt d t sm)) (h2 : ∀ d, sl ≠ .module (.wasm d)) :
    pruneSlot sl = sl := by
  fun_cases pruneSlot sl
  · exact absurd rfl (h1 _ _ _ _)
  · exact absurd rfl (h2 _)
  · rfl

/-- the code edges followed from a visited module are exactly its resolved code targets
(dynamic ones included) and the resolved target of its source map (which a code-only build loads
as well — repair of F16): pruning never looks at the type side to decide what to keep -/
theorem slotTargets_js (mt : Tables.MediaType) (deps : List BDep) (td sm : Option Res) (t : Spec) :
    t ∈ slotTargets (.module (.js mt deps td sm)) ↔
      (∃ rng, sm = some (.ok t rng)) ∨ ∃ d ∈ deps, d.code.okSpec? = some t := by
  have hsm : t ∈ smTarget sm ↔ ∃ rng, sm = some (.ok t rng) := by
    rcases sm with _ | _ | _ | _ <;> simp [smTarget, eq_comm]
  simp only [slotTargets, Tables.pruneFollowsSourceMap, if_true, List.mem_append, hsm, depCodeTargets,
    List.mem_filterMap]

/-- the types dependency is never a reason to keep anything -/
theorem slotTargets_ignores_types_dependency (mt : Tables.MediaType) (deps : List BDep)
    (td td' sm : Option Res) :
    slotTargets (.module (.js mt deps td sm)) = slotTargets (.module (.js mt deps td' sm)) := rfl

/-- pruning adds no redirect: every kept redirect was a redirect of the full graph -/
theorem pruned_redirects_subset (roots : List Spec) (slots : List (Spec × BSlot))
    (redirects : List (Spec × Spec)) (fuel : Nat) (p : Spec × Spec)
    (h : p ∈ (pruneTypes roots slots redirects fuel).redirects) : p ∈ redirects := by
  simp only [pruneTypes, List.mem_filter] at h
  exact h.1

/-- every kept redirect has a source the worklist has seen (whatever the fuel; what the worklist sees is reachable from
the roots through redirect hops and code edges, `PInv.sound`) -/
theorem pruned_redirects_seen (roots : List Spec) (slots : List (Spec × BSlot))
    (redirects : List (Spec × Spec)) (fuel : Nat) (p : Spec × Spec)
    (h : p ∈ (pruneTypes roots slots redirects fuel).redirects) :
    p.1 ∈ (pruneLoop redirects fuel { slots := slots, seen := roots.foldl addSeen [], idx := 0 }).seen := by
  simp only [pruneTypes, List.mem_filter, List.contains_eq_mem, decide_eq_true_eq] at h
  exact h.2

/-- every kept entry sits under a specifier the worklist has seen -/
theorem pruned_slots_seen (roots : List Spec) (slots : List (Spec × BSlot))
    (redirects : List (Spec × Spec)) (fuel : Nat) (p : Spec × BSlot)
    (h : p ∈ (pruneTypes roots slots redirects fuel).slots) :
    p.1 ∈ (pruneLoop redirects fuel { slots := slots, seen := roots.foldl addSeen [], idx := 0 }).seen := by
  simp only [pruneTypes, List.mem_filter, List.contains_eq_mem, decide_eq_true_eq] at h
  exact h.2

/-- the worklist starts with the roots seen -/
theorem roots_seen (roots : List Spec) (r : Spec) (h : r ∈ roots) : r ∈ roots.foldl addSeen [] :=
  mem_foldl_addSeen.mpr (.inr h)

/-- **an entry is pruned wherever it sits** (finding F36, repaired): when the worklist reaches a
specifier that has an entry, the entry's type sides are dropped and its code targets are put on the
worklist — whether or not the redirect table also lists the specifier as a source.  The proof uses
the regenerated table `pruneVisitsEntryOnSource`; with the loop as it was before the repair
(`continue` after following the redirect) it does not go through. -/
theorem entry_visited_even_on_redirect_source (redirects : List (Spec × Spec)) (p : PState)
    (s : Spec) (sl : BSlot) (h : p.slots.lookup s = some sl) :
    (pruneIter redirects p s).slots = upsert p.slots s (pruneSlot sl) ∧
    ∀ t ∈ slotTargets sl, t ∈ (pruneIter redirects p s).seen := by
  rw [pruneIter_eq]
  exact ⟨by simp only [slotsAfter, h],
    fun t ht => mem_foldl_addSeen.mpr (.inr (mem_nexts.mpr (.inr ⟨sl, h, ht⟩)))⟩

/-- the redirect of a specifier is followed whether or not the specifier has an entry -/
theorem redirect_followed_from_entry (redirects : List (Spec × Spec)) (p : PState) (s u : Spec)
    (hr : redirects.lookup s = some u) : u ∈ (pruneIter redirects p s).seen := by
  rw [pruneIter_eq]
  exact mem_foldl_addSeen.mpr (.inr (mem_nexts.mpr (.inl hr)))

/-! The pruned graph is exactly the code-reachable part, type sides removed: the four readings of `pruneTypes_lookup`. -/

section exact
variable (roots : List Spec) (slots : List (Spec × BSlot)) (redirects : List (Spec × Spec))

/-- **a reachable entry is kept, pruned**: its type sides and types dependency are gone, everything
else is as it was -/
theorem pruned_entry_of_reachable (k : Spec) (h : PReach roots slots redirects k) :
    (pruneTypes roots slots redirects (pruneFuel roots slots redirects)).slots.lookup k =
      (slots.lookup k).map pruneSlot :=
  (pruneTypes_lookup roots slots redirects k).1.trans (if_pos h)

/-- **an entry that is not reachable through code is removed** -/
theorem pruned_entry_unreachable (k : Spec) (h : ¬ PReach roots slots redirects k) :
    (pruneTypes roots slots redirects (pruneFuel roots slots redirects)).slots.lookup k = none :=
  (pruneTypes_lookup roots slots redirects k).1.trans (if_neg h)

/-- **the redirects of reachable specifiers are kept as they were** -/
theorem pruned_redirect_of_reachable (k : Spec) (h : PReach roots slots redirects k) :
    (pruneTypes roots slots redirects (pruneFuel roots slots redirects)).redirects.lookup k =
      redirects.lookup k :=
  (pruneTypes_lookup roots slots redirects k).2.trans (if_pos h)

/-- **the redirects of unreachable specifiers are removed** -/
theorem pruned_redirect_unreachable (k : Spec) (h : ¬ PReach roots slots redirects k) :
    (pruneTypes roots slots redirects (pruneFuel roots slots redirects)).redirects.lookup k = none :=
  (pruneTypes_lookup roots slots redirects k).2.trans (if_neg h)

/-- **the pruned graph is closed**: whatever a kept entry's code side (or source map) resolves to,
and wherever a kept redirect leads, is reachable — so it is kept with its entry and its redirect;
pruning never leaves a code edge of a kept module dangling that the full graph had an answer for -/
theorem pruned_closed (k : Spec) (h : PReach roots slots redirects k) :
    (∀ sl t, slots.lookup k = some sl → t ∈ slotTargets sl → PReach roots slots redirects t) ∧
    (∀ t, redirects.lookup k = some t → PReach roots slots redirects t) :=
  ⟨fun _ _ hs ht => .edge h hs ht, fun _ hr => .redirect h hr⟩

/-- **no remaining type resolutions, anywhere in the pruned graph**: every entry that is kept is the
pruned form of the original entry under the same key — a JS module without types dependency and
without a type side on any dependency (`pruneSlot_js`), a wasm module without type sides, anything
else as it was -/
theorem pruned_kept_is_pruned (k : Spec) (sl : BSlot)
    (h : (pruneTypes roots slots redirects (pruneFuel roots slots redirects)).slots.lookup k = some sl) :
    ∃ sl0, slots.lookup k = some sl0 ∧ sl = pruneSlot sl0 := by
  rw [(pruneTypes_lookup roots slots redirects k).1] at h
  split at h
  · obtain ⟨sl0, h0, rfl⟩ := Option.map_eq_some_iff.mp h
    exact ⟨sl0, h0, rfl⟩
  · cases h

/-- a type-only target is not a reason to keep anything: reachability never looks at a type side
or a types dependency (`slotTargets` reads code sides and the source map only) -/
theorem type_sides_irrelevant (k : Spec) (mt : Tables.MediaType) (deps deps' : List BDep)
    (td td' sm : Option Res) (hcode : deps.map (·.code) = deps'.map (·.code)) :
    slotTargets (.module (.js mt deps td sm)) = slotTargets (.module (.js mt deps' td' sm)) := by
  have h : ∀ l : List BDep, depCodeTargets l = (l.map (·.code)).filterMap Res.okSpec? :=
    fun _ => by rw [List.filterMap_map]; rfl
  simp only [slotTargets, h, hcode]

end exact

/-- the F36 layout: the lockfile lists `1 → 9`, the loader reported the module of root `0` under
`1`; the module imports `2` (code) and `3` (type only).  `2` is kept and `3` is not. -/
def staleSlots : List (Spec × BSlot) :=
  [(1, .module (.js .TypeScript
      [{ text := 0, code := .ok 2 0, type := .none, dyn := false, attr := none, isAsset := false, sourcePhase := none },
       { text := 1, code := .none, type := .ok 3 1, dyn := false, attr := none, isAsset := false, sourcePhase := none }]
      none none)),
   (2, .module (.js .TypeScript [] none none)),
   (3, .module (.js .Dts [] none none))]

theorem stale_lockfile_example :
    ((pruneTypes [0] staleSlots [(0, 1), (1, 9)] 10).slots.map (·.1)) = [1, 2] ∧
    (pruneTypes [0] staleSlots [(0, 1), (1, 9)] 10).redirects = [(0, 1), (1, 9)] := by decide +kernel

/-- root 0 imports 1 (code) and 2 (type only) and names the source map 3 -/
def demoSlots : List (Spec × BSlot) :=
  [(0, .module (.js .TypeScript
      [{ text := 0, code := .ok 1 0, type := .none, dyn := false, attr := none, isAsset := false, sourcePhase := none },
       { text := 1, code := .none, type := .ok 2 1, dyn := false, attr := none, isAsset := false, sourcePhase := none }]
      none (some (.ok 3 7)))),
   (1, .module (.js .JavaScript [] (some (.ok 2 2)) none)),
   (2, .module (.js .Dts [] none none)),
   (3, .module (.external true))]

-- non-vacuity: 2 is dropped, 1 and the source map's stand-in are kept
example : ((pruneTypes [0] demoSlots [] 10).slots.map (·.1)) = [0, 1, 3] := by decide +kernel

end DG.C17
