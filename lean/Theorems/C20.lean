import DG.Decode
/-!
# C20 — module text and original bytes are faithful to what the loader supplied

Model: `DG/Decode.lean`.  The decoder of labels other than UTF-8/UTF-16 is a parameter
`otherDec`; the only thing assumed about it is the contract of `Cow::Borrowed` ("the input is
returned as is"), which is how `Conv.borrowed` is *interpreted* by `decodeDetail`.
-/
namespace DG.C20
open DG.Decode

variable (otherDec : Nat → Bytes → Conv)

/-- **original bytes are faithful**: a request for a module's original bytes returns nothing or
exactly the byte sequence the loader supplied — for every byte string, every charset and every
behaviour of the non-modelled decoders.  (This is the functional precondition of the `Arc`
transmute in `try_get_original_bytes`.) -/
theorem original_bytes_faithful (cs : Charset) (bs text : Bytes) (k : Kind)
    (h : decodeDetail otherDec cs bs = some (text, k)) :
    tryGetOriginalBytes text k = none ∨ tryGetOriginalBytes text k = some bs := by
  revert h
  fun_cases decodeDetail otherDec cs bs <;> intro h <;> cases h
  · exact .inr rfl
  · exact .inr rfl
  · exact .inl rfl

/-- end to end through `new_source_with_text` (any header, any scheme) -/
theorem original_bytes_faithful_end_to_end (header : Option Charset) (isFile : Bool)
    (bs text : Bytes) (k : Kind) (h : newSource otherDec header isFile bs = some (text, k)) :
    tryGetOriginalBytes text k = none ∨ tryGetOriginalBytes text k = some bs :=
  original_bytes_faithful otherDec _ bs text k h

/-- text stored as "unchanged" under UTF-8 is the input itself and is valid UTF-8 -/
theorem unchanged_utf8_is_input (bs text : Bytes)
    (h : decodeDetail otherDec .utf8 bs = some (text, .unchanged)) :
    text = bs ∧ utf8Valid bs = true := by
  revert h
  fun_cases decodeDetail otherDec .utf8 bs <;> intro h <;> cases h
  rename_i hc _
  unfold convert at hc
  by_cases hv : utf8Valid bs = true
  · exact ⟨rfl, hv⟩
  · rw [if_neg hv] at hc; cases hc

/-- "only the BOM was stripped" means exactly that: input = EF BB BF ++ text -/
theorem only_bom_means_only_bom (cs : Charset) (bs text : Bytes)
    (h : decodeDetail otherDec cs bs = some (text, .onlyUtf8Bom)) :
    bs = 0xEF :: 0xBB :: 0xBF :: text := by
  revert h
  fun_cases decodeDetail otherDec cs bs <;> intro h <;> cases h
  rfl

/-- **a leading byte-order mark is removed once** from decoded text: a second one stays -/
theorem bom_stripped_once (l : List Nat) :
    stripBomScalars (0xFEFF :: l) = l ∧ stripBomScalars (0xFEFF :: 0xFEFF :: l) = 0xFEFF :: l :=
  ⟨rfl, rfl⟩

theorem no_bom_untouched (c : Nat) (l : List Nat) (h : c ≠ 0xFEFF) :
    stripBomScalars (c :: l) = c :: l := by
  unfold stripBomScalars
  split
  · rename_i heq; cases heq; exact absurd rfl h
  · rfl

/-- the same on the borrowed UTF-8 path (bytes, not scalars): one BOM is stripped, a second one stays in the text -/
theorem bom_stripped_once_borrowed (rest : Bytes)
    (hv : utf8Valid (0xEF :: 0xBB :: 0xBF :: 0xEF :: 0xBB :: 0xBF :: rest) = true) :
    decodeDetail otherDec .utf8 (0xEF :: 0xBB :: 0xBF :: 0xEF :: 0xBB :: 0xBF :: rest) =
      some (0xEF :: 0xBB :: 0xBF :: rest, .onlyUtf8Bom) := by
  simp [decodeDetail, convert, hv]

/-- **the reported size is the byte length of the stored text**: so by definition in the model; that the code's
`size()` is this number rests on the correspondence check -/
theorem size_is_text_len (text : Bytes) : size text = text.length := rfl

/-- **undecodable input becomes a decode error rather than a module**: an unknown charset label -/
theorem unsupported_label_is_error (header : Option Charset) (isFile : Bool) (bs : Bytes)
    (h : chooseCharset header isFile bs = .unsupported) :
    newSource otherDec header isFile bs = none := by
  simp [newSource, h, decodeDetail, convert]

/-- under UTF-8 / UTF-16 every input becomes a module, whatever the bytes -/
theorem modelled_charsets_never_fail (cs : Charset) (bs : Bytes)
    (h : cs = .utf8 ∨ cs = .utf16le ∨ cs = .utf16be) :
    (decodeDetail otherDec cs bs).isSome = true := by
  fun_cases decodeDetail otherDec cs bs
  · next hc =>
    -- the one failing leaf: `convert` gives `.err` for none of the three
    rcases h with rfl | rfl | rfl <;> simp only [convert] at hc
    · split at hc <;> cases hc
    · cases hc
    · cases hc
  all_goals rfl

/-- **charset precedence**: the content-type header wins; without one, `file:` bytes are
sniffed for a UTF-16 BOM; everything else is UTF-8 -/
theorem charset_precedence (c : Charset) (isFile : Bool) (bs : Bytes) :
    chooseCharset (some c) isFile bs = c ∧
    chooseCharset none false bs = .utf8 ∧
    (∀ rest, chooseCharset none true (0xFF :: 0xFE :: rest) = .utf16le) ∧
    (∀ rest, chooseCharset none true (0xFE :: 0xFF :: rest) = .utf16be) :=
  ⟨rfl, rfl, fun _ => rfl, fun _ => rfl⟩

/-- valid UTF-8 without a BOM is stored verbatim -/
theorem valid_utf8_verbatim (bs : Bytes) (hv : utf8Valid bs = true)
    (hb : ∀ rest, bs ≠ 0xEF :: 0xBB :: 0xBF :: rest) :
    decodeDetail otherDec .utf8 bs = some (bs, .unchanged) := by
  unfold decodeDetail convert
  -- the BOM pattern of the inner match is ruled out by `hb`, which `simp` finds in the context
  simp only [hv, if_true]

/-- non-vacuity: concrete inputs through every branch -/
example : decodeDetail (fun _ _ => .err) .utf8 [0x68, 0x69] = some ([0x68, 0x69], .unchanged) := by decide +kernel
example : decodeDetail (fun _ _ => .err) .utf8 [0xEF, 0xBB, 0xBF, 0x68] = some ([0x68], .onlyUtf8Bom) := by decide +kernel
example : decodeDetail (fun _ _ => .err) .utf8 [0x68, 0xFF] = some ([0x68, 0xEF, 0xBF, 0xBD], .changed) := by decide +kernel
example : decodeDetail (fun _ _ => .err) .utf16le [0xFF, 0xFE, 0x68, 0x00] = some ([0x68], .changed) := by decide +kernel
example : decodeDetail (fun _ _ => .err) .utf16be [0xD8, 0x3D, 0xDE, 0x00] = some ([0xF0, 0x9F, 0x98, 0x80], .changed) := by decide +kernel

end DG.C20
