import Proofs.BuildInv
import Proofs.BuildProgress
import Proofs.BuildTerm
/-!
# C03 — builds terminate with every reachable specifier settled under any faults

Model: `DG/Build.lean`.  The world is arbitrary: `World.resp` may answer anything for any
specifier (errors, missing, redirect chains and loops, external markers), `Content` may be
undecodable or unparsable.  That every request is settled, that each fault becomes an error entry and that the loop
does not spin hold for *every* world and option set.
Termination is proved (`builds_terminate`) for every world in which a cache-bypassing reload
answers like a normal load and the final specifier a module is served under does not itself lead
elsewhere (a consistent loader): for every option set, all roots and configured imports, some
amount of fuel finishes the build (the measure: `Proofs/BuildTerm.lean`; the invariant that makes it work, that every
recorded redirect leads through entry-less specifiers to an entry: `Proofs/BuildWalk.lean`).  For inconsistent loaders and
reload answers that differ the loop is still shown not to spin — an iteration that takes a request off
the queue calls the loader, and at most two iterations in a row take none (`no_spinning`), so a
build that does not finish keeps calling the loader.  For such loaders a bound on the number of loader calls
is not proved (the model takes fuel); the correspondence run bounds the implementation's loader
calls and wall time and reports a build that does not finish.
-/
namespace DG.C03
open DG DG.Build Tables

/-- **no entry is left unfinished**: whatever the loader does, a build that finishes has no
pending slot — the graph never serialises "[INTERNAL ERROR] A pending module load never
completed". -/
theorem no_pending_after_build (w : World) (o : Opts) (roots : List Spec)
    (imports : List (Spec × List Dep)) (fuel : Nat) (out : St)
    (h : build w o roots imports fuel = some out) :
    ∀ s a, out.slot s ≠ some (.pending a) :=
  build_no_pending w o roots imports fuel out h

/-- the invariant behind it — a pending slot always has a queued request — holds of what the loop returns if it held
of the state the loop started from (along the loop: `loop_invariants`) -/
theorem pending_slots_are_queued (w : World) (o : Opts) (fuel : Nat) (st out : St)
    (hst : PendInv st) (h : runLoop w o fuel st = some out) : PendInv out ∧ quiescent out = true :=
  hst.runLoop w o fuel out h

/-- `s` stands for `e.spec`, so that `e` is found by unification with the entry before `h` is proved -/
theorem slot_stepPending_err (w : World) (o : Opts) (r : Req) (st : St) {e : BErr} {s : Spec}
    (h : tryLoad w o r = .err e) (hs : e.spec = s) : (stepPending w o r st).slot s = some (.err e) := by
  rw [stepPending, h, applyOutcome, slot_setSlot, if_pos hs.symm]

/-- **each failure becomes an error entry for the affected specifier carrying its referrer**:
a missing module -/
theorem missing_becomes_error_entry (w : World) (o : Opts) (r : Req) (st : St)
    (h : w.respOf r.spec = .missing) :
    (stepPending w o r st).slot r.spec =
      some (.err { kind := .missing, spec := r.spec, referrer := r.range }) :=
  slot_stepPending_err w o r st (by simp [tryLoad, tryLoad', World.answer, World.respFor, h]) rfl

/-- a loader error becomes an error entry for the requested specifier carrying the request's referrer -/
theorem loader_error_becomes_error_entry (w : World) (o : Opts) (r : Req) (st : St)
    (h : w.respOf r.spec = .error) :
    (stepPending w o r st).slot r.spec =
      some (.err { kind := .loader, spec := r.spec, referrer := r.range }) :=
  slot_stepPending_err w o r st (by simp [tryLoad, tryLoad', World.answer, World.respFor, h]) rfl

/-- so does a redirect beyond the limit, or back to the requested specifier itself (fixed finding F13) -/
theorem redirect_loop_becomes_error_entry (w : World) (o : Opts) (r : Req) (st : St) (to : Spec)
    (h : w.respOf r.spec = .redirect to) (hc : r.checksum = none)
    (hl : r.count ≥ w.maxRedirects ∨ to = r.spec) :
    (stepPending w o r st).slot r.spec =
      some (.err { kind := .tooManyRedirects, spec := r.spec, referrer := r.range }) := by
  have : (decide (r.count ≥ w.maxRedirects) || to == r.spec) = true := by
    rcases hl with hl | hl <;> simp [hl]
  exact slot_stepPending_err w o r st (by simp [tryLoad, tryLoad', World.answer, World.respFor, h, hc, this]) rfl

/-- undecodable / unparsable content is an error entry at the final specifier -/
theorem bad_content_becomes_error_entry (w : World) (o : Opts) (r : Req) (st : St) (f : Spec)
    (k : ErrKind) (ref : Option Nat) (h : w.respOf r.spec = .module f) (ha : r.isAsset = false)
    (hk : r.checksum = none)
    (hc : classify o (w.contentOf r.spec) r.attr r.range r.spRef r.isRoot r.inDyn = .err k ref) :
    (stepPending w o r st).slot f = some (.err { kind := k, spec := f, referrer := ref }) :=
  slot_stepPending_err w o r st (by simp [tryLoad, tryLoad', World.answer, World.respFor, moduleOutcome, h, ha, hc, hk]) rfl

/-- an error never leaves the requested specifier pending -/
theorem error_settles_request (w : World) (o : Opts) (r : Req) (st : St) (e : BErr)
    (h : tryLoad w o r = .err e) (hp : PendInvEx (some r.spec) st) :
    PendInv (stepPending w o r st) := hp.stepPending w o

/-- **taking a request off the queue is a loader call**, and the call log never shrinks -/
theorem request_is_a_loader_call (w : World) (o : Opts) (st : St) :
    (iter w o st).log.length ≥ st.log.length + (if st.pending.isEmpty then 0 else 1) := by
  rw [iter, log_drain]
  rcases st.pending with _ | ⟨r, rest⟩
  · exact Nat.le_refl _
  · exact log_stepPending w o r _

/-- **the loop cannot spin** (finding F13 was a loop that did): from any state the invariant holds
in with nothing queued, after at most two iterations a request is queued — whose processing is a
loader call — or the build is finished -/
theorem no_spinning (w : World) (o : Opts) (st : St) (hinv : PendInv st) (hd : DynInv st)
    (hp : st.pending = []) :
    (iter w o st).pending ≠ [] ∨ quiescent (iter w o st) = true ∨
    (iter w o (iter w o st)).pending ≠ [] ∨ quiescent (iter w o (iter w o st)) = true :=
  idle_at_most_twice w o st hinv hd hp

/-- both invariants hold in every state of the loop -/
theorem loop_invariants (w : World) (o : Opts) (st : St) (hinv : PendInv st) (hd : DynInv st) :
    PendInv (iter w o st) ∧ DynInv (iter w o st) :=
  ⟨hinv.iter w o, hd.iter w o⟩

/-- **builds terminate**: whatever the loader answers — errors, missing modules, redirect chains and
cycles, self-redirects, external markers, undecodable or unparsable content — provided a reload
answers like a normal load and module answers name final specifiers that do not lead elsewhere -/
theorem builds_terminate (w : World) (o : Opts) (roots : List Spec) (imports : List (Spec × List Dep))
    (hre : w.reloadResp = []) (hfin : ∀ q f, w.respOf q = .module f → f ≠ q → finalOf w f = f) :
    ∃ fuel out, build w o roots imports fuel = some out :=
  -- over the universe of everything the world, the roots and the configured imports mention
  build_terminates w o (universeOf w roots imports)
    ⟨hre, hfin, parsedIn_universe w roots imports, finalIn_universe w roots imports, nodup_fresh ..⟩ roots imports
    fun _ hs => mem_universeOf.mpr (.inl hs)

/-- termination and `no_pending_after_build` together: under the same hypotheses some fuel finishes the build, with no
pending entry -/
theorem builds_finish_settled (w : World) (o : Opts) (roots : List Spec) (imports : List (Spec × List Dep))
    (hre : w.reloadResp = []) (hfin : ∀ q f, w.respOf q = .module f → f ≠ q → finalOf w f = f) :
    ∃ fuel out, build w o roots imports fuel = some out ∧ ∀ s a, out.slot s ≠ some (.pending a) := by
  obtain ⟨fuel, out, h⟩ := builds_terminate w o roots imports hre hfin
  exact ⟨fuel, out, h, build_no_pending w o roots imports fuel out h⟩

def mkDep (t s r : Nat) (dyn : Bool) : BDep :=
  { text := t, code := .ok s r, type := .none, dyn := dyn, attr := none, isAsset := false, sourcePhase := none }

def faultWorld : World :=
  { resp := [(0, .module 0), (1, .redirect 1), (2, .redirect 3), (3, .redirect 2)],
    content := [(0, { mt := .TypeScript, schemeFile := true, decodable := true, parsable := true, wasmOk := true,
                      parsed := { deps := [mkDep 0 1 0 false, mkDep 1 2 1 false, mkDep 2 4 2 true],
                                  typesDep := none, sourceMapDep := none } })],
    wasmExt := [], nodeSpecs := [], maxRedirects := 10, lockRemote := [] }

def faultOpts : Opts :=
  { kind := .All, isDynamic := false, skipDynamicDeps := false, unstableBytes := false,
    unstableText := false, unstableCss := false, unstableConfig := false }

def errKindOf : BSlot → Option ErrKind
  | .err e => some e.kind
  | _ => none

-- non-vacuity: a world with a self-redirect (`1`), a redirect loop (`2`, `3`) and a missing module (`4`) finishes, with
-- error entries for all of them
example : ((build faultWorld faultOpts [0] [] 100).map fun st =>
    st.slots.map fun p => (p.1, errKindOf p.2)) =
    some [(0, none), (1, some .tooManyRedirects), (3, some .tooManyRedirects), (4, some .missing)] := by
  decide +kernel

/-- the fault world above satisfies the hypotheses of the termination theorem -/
example : faultWorld.reloadResp = [] ∧ ∀ q f, faultWorld.respOf q = .module f → f ≠ q → finalOf faultWorld f = f := by
  refine ⟨rfl, fun q f h _ => ?_⟩
  -- the only module answer is `0 ↦ module 0`
  have : f = 0 := by
    unfold World.respOf at h
    rcases hl : faultWorld.resp.lookup q with _ | r <;> rw [hl] at h
    · cases h
    · have := mem_of_lookup_eq_some hl
      cases h
      simp [faultWorld] at this
      exact this.2
  subst this
  rfl

end DG.C03
