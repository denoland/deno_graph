import Theorems.C11
import Proofs.TraceTerm
/-!
# C09 — fast-check output is closed under reference

Model: `DG/Trace.lean`.  Closure is a property of the tracer: whatever a retained declaration's
public signature refers to is retained too, in the same module or — through a retained import —
in the module it comes from, whose own emitted counterpart still exports it.
-/
namespace DG.C09
open DG.Trace

theorem refs_done {w : World} {entries : List Nat} {s : State} (T : Traced w entries s) {m name : Nat} {d : Decl}
    (hr : (m, name) ∈ s.decls) (hd : findDecl (w.mod m) name = some d) :
    (∀ r ∈ d.refs, Task.local m r ∈ s.done) ∧ ∀ q ∈ d.qrefs, Task.qual m q.1 q.2 ∈ s.done :=
  have hs := T.served (T.declsDone (m, name) hr).1 d hd
  ⟨fun r hr => T.done_of_sched (hs.2.1 r hr), fun q hq => T.done_of_sched (hs.2.2 q hq)⟩

variable (w : World) (entries : List Nat) (fuel : Nat) (s : State)

/-- a retained declaration has been processed -/
theorem retained_processed (h : trace w entries fuel = some s) (m name : Nat) (hr : (m, name) ∈ s.decls) :
    Task.decl m name ∈ s.done :=
  ((trace_inv h).declsDone (m, name) hr).1

/-- a processed local name that is a declaration of the module has that declaration retained -/
theorem local_served (h : trace w entries fuel = some s) (m l : Nat) (hq : Task.local m l ∈ s.done) (d : Decl)
    (hd : findDecl (w.mod m) l = some d) : (m, d.name) ∈ s.decls := by
  have T := trace_inv h
  have h3 := T.served hq
  simp only [Served, hd] at h3
  have hn : d.name = l := by simpa using List.find?_some hd
  exact (T.served (T.done_of_sched h3) d (hn ▸ hd)).1

/-- **references to declarations of the same module stay resolvable**: if a retained declaration's
signature mentions a name that is a declaration of the module, that declaration is retained -/
theorem closed_local (h : trace w entries fuel = some s) (m name r : Nat) (d d' : Decl)
    (hr : (m, name) ∈ s.decls) (hd : findDecl (w.mod m) name = some d) (href : r ∈ d.refs)
    (hd' : findDecl (w.mod m) r = some d') : (m, d'.name) ∈ s.decls ∧
      (findDecl (w.mod m) d'.name = some d' → True) :=
  ⟨local_served w entries fuel s h m r ((refs_done (trace_inv h) hr hd).1 r href) d' hd', fun _ => trivial⟩

/-- **references to imports stay resolvable**: the import binding is retained and the exporting
module has been asked for that name -/
theorem closed_import (h : trace w entries fuel = some s) (m name r : Nat) (d : Decl) (p : Nat × Nat × Nat)
    (hr : (m, name) ∈ s.decls) (hd : findDecl (w.mod m) name = some d) (href : r ∈ d.refs)
    (hnd : findDecl (w.mod m) r = none) (hp : findImport (w.mod m) r = some p) :
    (m, r) ∈ s.imports ∧ Task.reqName p.2.1 p.2.2 ∈ s.done := by
  have T := trace_inv h
  have h3 := T.served ((refs_done T hr hd).1 r href)
  simp only [Served, hnd, hp] at h3
  exact ⟨h3.1, T.done_of_sched h3.2⟩

/-- **references through a namespace import stay resolvable**: when a retained declaration's
signature mentions a namespace import as a whole (`typeof ns`), the import is retained and the
imported module has been asked for everything but `default`; when it mentions `ns.x`, the import
is retained and the imported module has been asked for `x` -/
theorem closed_namespace_import (h : trace w entries fuel = some s) (m name : Nat) (d : Decl) (p : Nat × Nat)
    (hr : (m, name) ∈ s.decls) (hd : findDecl (w.mod m) name = some d) :
    (∀ r ∈ d.refs, findDecl (w.mod m) r = none → findImport (w.mod m) r = none → findNsImport (w.mod m) r = some p →
      (m, r) ∈ s.imports ∧ Task.reqAll p.2 false ∈ s.done) ∧
    (∀ q ∈ d.qrefs, findNsImport (w.mod m) q.1 = some p →
      (m, q.1) ∈ s.imports ∧ Task.reqName p.2 q.2 ∈ s.done) := by
  have T := trace_inv h
  constructor
  · intro r href hnd hni hns
    have h3 := T.served ((refs_done T hr hd).1 r href)
    simp only [Served, hnd, hni, hns] at h3
    exact ⟨h3.1, T.done_of_sched h3.2⟩
  · intro q hq hns
    have h3 := T.served ((refs_done T hr hd).2 q hq)
    simp only [Served, hns] at h3
    exact ⟨h3.1, T.done_of_sched h3.2⟩

/-- **the exporting module's emitted counterpart still exports the name**: a module that has been
asked for a name keeps whatever its source uses to export it — the declaration itself, the local
export specifier (and what it names), the named re-export (and the next module is asked in turn),
or, failing all that, the `export *` of every module on the path along which *this* module has the
name (the module at the end of the path being asked in turn); when there is no such path, every
star re-export is kept -/
theorem request_served (h : trace w entries fuel = some s) (m n : Nat) (hq : Task.reqName m n ∈ s.done) :
    m ∈ s.modules ∧
    (∀ d, ownExport (w.mod m) n = some d → findDecl (w.mod m) d.name = some d → (m, d.name) ∈ s.decls) ∧
    (ownExport (w.mod m) n = none → ∀ p, findLocalExport (w.mod m) n = some p →
        (m, n) ∈ s.exportLocal ∧ Task.local m p.2 ∈ s.done) ∧
    (ownExport (w.mod m) n = none → findLocalExport (w.mod m) n = none → ∀ p, findFrom (w.mod m) n = some p →
        (m, n) ∈ s.exportFrom ∧ Task.reqName p.2.1 p.2.2 ∈ s.done) ∧
    (ownExport (w.mod m) n = none → findLocalExport (w.mod m) n = none → findFrom (w.mod m) n = none →
        (∀ edges d, findPath w m n = some (edges, d) → (∀ e ∈ edges, e ∈ s.stars) ∧ Task.reqName d n ∈ s.done) ∧
        (findPath w m n = none → ∀ x ∈ (w.mod m).stars, (m, x) ∈ s.stars)) := by
  have T := trace_inv h
  obtain ⟨hm, hs⟩ := T.served hq
  -- the hypotheses of each clause decide the `match`es of `Served` in `hs`
  refine ⟨hm, fun d hd hf => ?_, fun hd p hp => ?_, fun hd hp q hq' => ?_,
    fun hd hp hq' => ⟨fun edges d hx => ?_, fun hx => ?_⟩⟩ <;> simp only [*] at hs
  · exact (T.served (T.done_of_sched hs) d hf).1 -- an own declaration
  · exact ⟨hs.1, T.done_of_sched hs.2⟩ -- a local export specifier
  · exact ⟨hs.1, T.done_of_sched hs.2⟩ -- a named re-export
  · exact ⟨hs.1, T.done_of_sched hs.2⟩ -- a path of `export *`
  · exact hs -- no path

/-- **a name that a module has through `export *` is still exported by the emitted modules, all the
way**: when a module that was asked for a name has it along a path of `export *` declarations,
that path is a chain of star re-exports of the package from this module to one that has the name
as its own; every `export *` on it is retained, and the module at its end was asked for the name
(so, by `request_served` there, it keeps the declaration, export specifier or named re-export).
Cycles of `export *` cannot lead the path back: it is resolved from the asking module
(finding F34, repaired in /repo) -/
theorem star_path_retained (h : trace w entries fuel = some s) (m n : Nat) (hq : Task.reqName m n ∈ s.done)
    (hd : ownExport (w.mod m) n = none) (hp : findLocalExport (w.mod m) n = none) (hf : findFrom (w.mod m) n = none)
    (edges : List (Nat × Nat)) (d : Nat) (hpath : findPath w m n = some (edges, d)) :
    IsStarPath w m edges d ∧ ownsName (w.mod d) n = true ∧ (∀ e ∈ edges, e ∈ s.stars) ∧
      Task.reqName d n ∈ s.done ∧ d ∈ s.modules := by
  have T := trace_inv h
  obtain ⟨hpth, hown⟩ := findPath_spec hpath
  obtain ⟨_, hs⟩ := T.served hq
  simp only [hd, hp, hf, hpath] at hs
  have hdn := T.done_of_sched hs.2
  exact ⟨hpth, hown, hs.1, hdn, (T.served hdn).1⟩

/-- the cycle of finding F34: `a` re-exports `b`, `b` re-exports `a` and `c`, `c` declares the name;
the path from `a` is a → b → c (the choice made before the repair, `starProvider`, sent `b` back to `a`) -/
example :
    let w : World := [
      { decls := [], imports := [], exportFrom := [], stars := [1], exportLocal := [] },
      { decls := [], imports := [], exportFrom := [], stars := [0, 2], exportLocal := [] },
      { decls := [{ name := 5, exported := true, isDefault := false, refs := [] }], imports := [], exportFrom := [],
        stars := [], exportLocal := [] }]
    findPath w 0 5 = some ([(0, 1), (1, 2)], 2) ∧ starProvider w (w.mod 1) 5 = some 0 := by
  decide +kernel

/-- **the tracer terminates** on every package from every set of entry points: the theorems above
are not vacuous for any input — there always is an amount of fuel with which the run finishes
(and more fuel gives the same result: `more_fuel_same_result` below) -/
theorem tracer_terminates : ∃ fuel r, trace w entries fuel = some r := by
  refine run_terminates w (Task.Over (univOf w entries)) _ (fun _ => mem_tasksOver)
    (fun _ => over_asks (mentions_univOf w entries)) _ fun t ht => ?_
  obtain ⟨m, hm, rfl⟩ := List.mem_map.mp ht
  exact List.mem_append_left _ hm

theorem more_fuel_same_result (r : State) (h : trace w entries fuel = some r) :
    trace w entries (fuel + 1) = some r :=
  run_fuel_mono w fuel _ r h

/-- closure, unconditionally: for every package there is a finished run, and in it every local
reference of every retained declaration is retained -/
theorem closed_local_total : ∃ fuel r, trace w entries fuel = some r ∧
    ∀ m name x d d', (m, name) ∈ r.decls → findDecl (w.mod m) name = some d → x ∈ d.refs →
      findDecl (w.mod m) x = some d' → (m, d'.name) ∈ r.decls := by
  obtain ⟨fuel, r, h⟩ := tracer_terminates w entries
  exact ⟨fuel, r, h, fun m name x d d' hr hd hx hd' => (closed_local w entries fuel r h m name x d d' hr hd hx hd').1⟩

/-- exactness, unconditionally (C11): for every package there is a finished run whose retained
declarations are exactly those the public API calls for -/
theorem retained_iff_total : ∃ fuel r, trace w entries fuel = some r ∧
    ∀ m name, (m, name) ∈ r.decls ↔ (Just w entries (.decl m name) ∧ (findDecl (w.mod m) name).isSome = true) := by
  obtain ⟨fuel, r, h⟩ := tracer_terminates w entries
  exact ⟨fuel, r, h, fun m name => C11.retained_iff w entries fuel r h m name⟩

section Pending
open DG.Subset

/-- **requests still pending for a module are merged, never dropped** (`DG/Subset.lean`): while a
module waits to be analysed, further requests for it are merged into the pending one
(`PendingTraces::add`), and a reference is only closed if every one of them is analysed in the end.
The pending request after any sequence of merges covers everything each request covered -/
theorem pending_merge_keeps_every_request : ∀ (ts : List Imp) (h : Option Imp) (p : List String),
    (optCovers h p = true ∨ ∃ t ∈ ts, t.covers p = true) → optCovers (ts.foldl pendingAdd h) p = true :=
  fun ts h p hc => handledRun_fst ts h ▸ handledRun_keeps ts h p hc

/-- a `default` request waiting for a module survives a `*` request merged into it -/
example : (pendingAdd (some (.subset onlyDefault)) .star).map (·.covers ["default"]) = some true := by
  decide +kernel

end Pending

end DG.C09
