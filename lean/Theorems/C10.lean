import Proofs.Erase
import DG.Leave
/-!
# C10 — fast-check output has no executable logic and needs no type inference

Model: `DG/Erase.lean` (`transform_fn`, `transform_arrow`, `handle_param_pat`,
`transform_var_declarator`, `transform_class(_member)` and the two expression analyses).
Everything is for all inputs of the abstract syntax; the correspondence check ties the abstract
syntax and these functions to the real transform, declaration by declaration.
-/
namespace DG.C10
open DG.FC

/-- a parameter as the statement wants it: an explicit type, or a retained default value -/
def ParamOk (o : OParam) : Prop := o.ty.isSome = true ∨ (o.dflt.isSome = true ∧ o.rest = false)

theorem typedParam_ok {p : Param} {o : Bool} {t : Ty} : ParamOk (typedParam p o t) := by
  unfold typedParam; split <;> exact Or.inl rfl

theorem handleDefault_ok {p : Param} {isOpt : Bool} {d : Expr} {o : OParam}
    (h : handleDefault p isOpt d = .ok o) : ParamOk o := by
  revert h
  fun_cases handleDefault p isOpt d <;> intro h <;> cases h
  · exact typedParam_ok
  · exact typedParam_ok
  · exact Or.inr ⟨rfl, rfl⟩

theorem handleParam_ok (p : Param) (isOpt : Bool) (o : OParam) (h : handleParam p isOpt = .ok o) :
    ParamOk o := by
  revert h
  fun_cases handleParam p isOpt <;> intro h
  · cases h
  · cases h; exact Or.inl rfl
  · cases h
  · cases h; exact Or.inl rfl
  · exact handleDefault_ok h

/-- **a parameter that cannot be given a type is a diagnostic, never output** -/
theorem handleParam_diag_iff (p : Param) (isOpt : Bool) :
    (∃ d, handleParam p isOpt = .error d) ↔
      p.ty = none ∧ (p.rest = true ∨ p.dflt = none ∨
        ∃ e, p.dflt = some e ∧ inferType e .mutable = none ∧ leavable e = none) := by
  fun_cases handleParam p isOpt <;> simp [*, handleDefault_diag_iff]

theorem handleParams_ok (ps : List Param) (os : List OParam) (h : handleParams ps = .ok os) :
    ∀ o ∈ os, ParamOk o :=
  mapM_all (fun x y hxy => handleParam_ok x.1 _ y hxy) h

/-- **every emitted function-like**: every parameter typed (or a retained default), the body empty or
the single placeholder return, a return type unless it is a setter (or has no body); the
placeholder is there exactly when the return type is not `void`; never `async` -/
theorem transformFn_ok (f : Fn) (k : FnKind) (ov : Bool) (o : OFn) (h : transformFn f k ov = .ok o) :
    (∀ p ∈ o.params, ParamOk p) ∧
    (o.body = .empty ∨ o.body = .placeholder ∨ o.body = .none) ∧
    (k ≠ .setter → f.hasBody = true → o.ret.isSome = true) ∧
    (o.body = .placeholder → ∃ t, o.ret = some t ∧ isVoid t = false) ∧
    o.isAsync = false := by
  -- the implementation signature of an overload differs in parameters and return type only
  have hb : (if ov then overloadOf f else f).hasBody = f.hasBody := by cases ov <;> rfl
  revert h
  unfold transformFn
  fun_cases transformFnCore (if ov then overloadOf f else f) k <;> intro h <;> cases h
  rename_i ret hret ps hps
  exact ⟨handleParams_ok _ ps hps, bodyOf_cases _ _, hb ▸ returnOf_some hret, bodyOf_placeholder, rfl⟩

/-- a function whose return type is neither given nor inferable as `void` is a diagnostic -/
theorem missing_return_is_diagnostic (f : Fn) (k : FnKind)
    (hr : f.ret = none) (hk : k ≠ .setter) (hb : f.hasBody = true)
    (ha : f.analysis = .single ∨ f.analysis = .multiple ∨ f.isGen = true) :
    transformFnCore f k = .error .missingReturnType := by
  have : returnOf f k = .error .missingReturnType := by
    fun_cases returnOf f k
    · rfl
    · rename_i hg _
      rcases ha with ha | ha | ha
      · rw [ha]; cases k <;> rfl
      · rw [ha]; cases k <;> rfl
      · exact absurd ha hg
    · contradiction
    · rename_i hc
      simp [hr, hk] at hc
  unfold transformFnCore
  rw [this]

/-- **arrow functions**: typed parameters, and either an explicit (or inferred) return type with an
empty / placeholder body, or no return type and an expression body that was left in place -/
theorem transformArrow_ok (a : Arrow) (o : OFn) (h : transformArrow a = .ok o) :
    (∀ p ∈ o.params, ParamOk p) ∧
    ((o.ret.isSome = true ∧ (o.body = .empty ∨ o.body = .placeholder) ∧ o.isAsync = false) ∨
     (o.ret = none ∧ ((∃ t e, a.exprBody = some e ∧ leavable e = some t ∧ o.body = .kept t) ∨ o.body = .empty))) := by
  revert h
  fun_cases transformArrow a <;> intro h <;> cases h
  rename_i ret kept hrk ps hps
  refine ⟨handleParams_ok _ ps hps, ?_⟩
  cases ret with
  | some t => exact .inl ⟨rfl, by simp only [arrowBody]; split <;> simp, Bool.and_false _⟩
  | none =>
    cases kept with
    | none => exact .inr ⟨rfl, .inr rfl⟩
    | some t =>
      obtain ⟨e, he, hl⟩ := arrowReturn_kept hrk
      exact .inr ⟨rfl, .inl ⟨t, e, he, hl, rfl⟩⟩

/-- **variables**: an explicit (or inferred) type with the placeholder initialiser, or no type and an
initialiser that was left in place (a leavable expression or a transformed function) -/
theorem transformVar_ok (name : String) (isConst : Bool) (ty : Option Ty) (init : Option Init) (o : OVar)
    (h : transformVar name isConst ty init = .ok o) :
    (o.ty.isSome = true ∧ o.init = .never) ∨
    (o.ty = none ∧ ∃ i oi, init = some i ∧ leaveInit i = .ok (some oi) ∧ o.init = oi) := by
  revert h
  fun_cases transformVar name isConst ty init <;> intro h <;> cases h
  · exact .inl ⟨rfl, rfl⟩
  · exact .inl ⟨rfl, rfl⟩
  · exact .inr ⟨rfl, _, _, rfl, ‹_›, rfl⟩

/-- a typed variable never keeps its initialiser -/
theorem typed_var_drops_initialiser (name : String) (isConst : Bool) (t : Ty) (init : Option Init) :
    transformVar name isConst (some t) init = .ok { name := name, ty := some t, init := .never } := rfl

/-- **TypeScript-private members are reduced to `any`-typed declarations** -/
theorem private_prop_reduced (name : String) (isStatic ro : Bool) (ty : Option Ty) (init : Option Init)
    (seen : List String) :
    transformMember (.prop name .priv isStatic ro ty init) seen =
      .ok ([], some (.prop name .priv isStatic ro true false (some "any") .dropped)) := rfl

theorem private_method_reduced (name : String) (isStatic : Bool) (kind : FnKind) (f : Fn) (seen : List String)
    (h : seen.contains name = false) :
    transformMember (.method name .priv isStatic kind f) seen =
      .ok ([], some (.prop name .priv isStatic false true false (some "any") .dropped)) := by
  simp only [transformMember, if_true, h, Bool.false_eq_true, if_false]

/-- **ECMAScript-private members and static blocks are removed** (the model's emitted members have
no form for them at all; only the `#private` brand records that there were some) -/
theorem es_private_removed (seen : List String) :
    transformMember .esPrivate seen = .ok ([], none) ∧ transformMember .staticBlock seen = .ok ([], none) :=
  ⟨rfl, rfl⟩

/-- a non-private parameter property that would be emitted without a type is a diagnostic
(defect F28, fixed in /repo by 51f3b44) -/
theorem untyped_param_prop_is_diagnostic (access : Access) (params : List CtorParam) (hb cs ov : Bool)
    (seen : List String) (h : params.any untypedParamProp = true) :
    transformMember (.ctor access params hb cs ov) seen = .error .missingType :=
  if_pos h

/-- **an overload implementation keeps its parameter properties**: whether or not the constructor
is the implementation behind overload signatures (whose own parameters become `paramN?: any`), an
accepted constructor contributes exactly the properties its parameter properties declare -/
theorem ctor_param_props_kept (access : Access) (params : List CtorParam) (hb cs ov : Bool)
    (seen : List String) (ins : List OMember) (om : Option OMember)
    (h : transformMember (.ctor access params hb cs ov) seen = .ok (ins, om)) :
    ins = params.filterMap paramProp := by
  rw [transformMember] at h
  by_cases hu : params.any untypedParamProp = true
  · rw [if_pos hu] at h; cases h
  · rw [if_neg hu] at h
    by_cases ha : access = .priv
    · rw [if_pos ha] at h; cases h; rfl
    · rw [if_neg ha] at h; obtain ⟨_, -, h⟩ := map_eq_ok h; cases h; rfl

/-- the signature of an accepted overload implementation is `(param0?: any, …)` -/
example : transformMember (.ctor .pub [{ p := { name := "a", opt := false, rest := false, ty := some "number", dflt := none }, prop := some (.pub, true) }] true false true) [] =
    .ok ([.prop "a" .pub false true true false (some "number") .dropped],
         some (.ctor .pub [{ name := "param0", opt := true, rest := false, ty := some "any", dflt := none }] false)) := by
  rfl

/-- every property made from a parameter property is typed when the constructor is accepted -/
theorem param_prop_typed (cp : CtorParam) (m : OMember) (h : paramProp cp = some m)
    (hu : untypedParamProp cp = false) :
    ∃ name acc isStatic ro declare opt t, m = .prop name acc isStatic ro declare opt (some t) .dropped := by
  obtain ⟨n, a, r, o, ty, rfl, h'⟩ := paramProp_shape h
  cases ty with
  | none => rw [h'] at hu; cases hu
  | some t => exact ⟨_, _, _, _, _, _, t, rfl⟩

/-- **the statement's "initialisers are … reduced to literal-like … forms" is not what the code
does**: an expression over identifiers is *left in place* (finding F27): here an update expression -/
theorem leavable_expression_survives :
    transformVar "u" true none (some (.expr (.leave "counter++"))) =
      .ok { name := "u", ty := none, init := .kept "counter++" } := by rfl

/-- **an auto-accessor keeps its public signature**: it becomes a declared property of the same
name, staticness and accessibility that has a type (its annotation, a type inferred from a
literal-like initial value, `any` when private) and no value — or a diagnostic is raised -/
theorem accessor_typed (name : String) (access : Access) (isStatic : Bool) (ty : Option Ty) (init : Option Expr)
    (seen : List String) :
    transformMember (.accessor name access isStatic ty init) seen = .error .missingType ∨
    ∃ t, transformMember (.accessor name access isStatic ty init) seen =
      .ok ([], some (.prop name access isStatic false true false (some t) .dropped)) := by
  simp only [transformMember]
  by_cases ha : access = .priv
  · subst ha; exact .inr ⟨_, rfl⟩
  · rw [if_neg ha]
    rcases ty with _ | t
    · cases init.bind fun e => inferType e .mutable
      · exact .inl rfl
      · exact .inr ⟨_, rfl⟩
    · exact .inr ⟨_, rfl⟩

/-- an untyped public auto-accessor whose initial value has no inferable type is reported -/
theorem untyped_accessor_is_diagnostic (name : String) (isStatic : Bool) (seen : List String) :
    transformMember (.accessor name .pub isStatic none (some .opaque)) seen = .error .missingType := rfl

/-! `leavable` (`DG/Leave.lean`) is the analysis `maybe_transform_expr_if_leavable`; `NoLogic` says that nothing that
stays in the output is a call, `new`, sequence, assignment, tagged template, class, optional chain,
private member access or object method — at any depth, in any element, property value, computed key
or template substitution.  The two coincide for every expression, so an initialiser whose type is
not inferable is either left and free of logic, or a diagnostic. -/
section leave
open DG.Leave

-- both recursions have the same clauses (`&&`/`∧`, `true`/`True`, `false`/`False`); unfolding once, before `cases`, is cheaper than per case
mutual
theorem leavable_iff_noLogic : ∀ e : LExpr, Leave.leavable e = true ↔ NoLogic e := by
  intro e
  unfold Leave.leavable NoLogic
  cases e <;> simp only [Bool.and_eq_true, Bool.false_eq_true, and_assoc,
    leavable_iff_noLogic, leavableElems_iff, leavableProps_iff]
theorem leavableElems_iff : ∀ es : LElems, leavableElems es = true ↔ NoLogicElems es := by
  intro es
  unfold leavableElems NoLogicElems
  cases es <;> simp only [Bool.and_eq_true, leavable_iff_noLogic, leavableElems_iff]
theorem leavableProp_iff : ∀ p : LProp, leavableProp p = true ↔ NoLogicProp p := by
  intro p
  unfold leavableProp NoLogicProp
  cases p <;> simp only [Bool.and_eq_true, Bool.false_eq_true, leavable_iff_noLogic]
theorem leavableProps_iff : ∀ ps : LProps, leavableProps ps = true ↔ NoLogicProps ps := by
  intro ps
  unfold leavableProps NoLogicProps
  cases ps <;> simp only [Bool.and_eq_true, leavableProp_iff, leavableProps_iff]
end

/-- **an initialiser that is left in the output contains no logic** -/
theorem left_initialiser_has_no_logic (e : LExpr) (h : Leave.leavable e = true) : NoLogic e :=
  (leavable_iff_noLogic e).mp h

/-- **position does not matter**: one substitution with logic in it makes the whole template a
diagnostic, wherever it stands among the substitutions (the loop stops at the first one; a loop
that let the last substitution decide would leave `` `${f()}${1}` `` in the output) -/
theorem template_with_logic_is_diagnostic (pre post : LElems) (e : LExpr) (h : Leave.leavable e = false) :
    ∀ (join : LElems → LElems → LElems)
      (_ : ∀ a b, leavableElems (join a b) = (leavableElems a && leavableElems b)),
      Leave.leavable (.tpl (join pre (.cons e post))) = false := by
  intro join hj
  simp [Leave.leavable, hj, leavableElems, h]

/-- `e as T` is always left, and nothing of `e` stays -/
theorem as_is_left (e : LExpr) : Leave.leavable (.asT e) = true ∧ NoLogic (.asT e) := ⟨rfl, trivial⟩

/-- non-vacuity: `` [`id-${f()}-${1}`] `` is a diagnostic, `[y + 1, { a: Math.PI }]` is left -/
example : Leave.leavable (.arr (.cons (.tpl (.cons .logic (.cons .atom .nil))) .nil)) = false := by decide +kernel
example : Leave.leavable (.arr (.cons (.bin .atom .atom) (.cons (.obj (.cons (.kv (.member .atom)) .nil)) .nil))) = true := by decide +kernel
end leave

/-! non-vacuity: `function f(a: number, b = "x", ...r: string[]) { }` -/
example :
    transformFn { params := [{ name := "a", opt := false, rest := false, ty := some "number", dflt := none },
                             { name := "b", opt := false, rest := false, ty := none, dflt := some (.lit (.str "\"x\"")) },
                             { name := "r", opt := false, rest := true, ty := some "string[]", dflt := none }],
                  ret := none, isAsync := false, isGen := false, hasBody := true, analysis := .none } .declLike false =
    .ok { params := [{ name := "a", opt := false, rest := false, ty := some "number", dflt := none },
                     { name := "b", opt := true, rest := false, ty := some "string", dflt := none },
                     { name := "r", opt := false, rest := true, ty := some "string[]", dflt := none }],
          ret := some "void", body := .empty } := by rfl

end DG.C10
