import Proofs.TraceJust
import Proofs.Subset
/-!
# C11 — fast check preserves the public API and drops everything else

Model: `DG/Trace.lean` (the public-API tracer).  `s` is the state of any run that finishes.
-/
namespace DG.C11
open DG.Trace

variable (w : World) (entries : List Nat) (fuel : Nat) (s : State)

/-- at completion "scheduled" means "processed" -/
theorem done_of_sched (h : trace w entries fuel = some s) (t : Task)
    (ht : Sched s t) : t ∈ s.done :=
  (trace_inv h).done_of_sched ht

theorem served_of_done (h : trace w entries fuel = some s) (t : Task) (ht : t ∈ s.done) : Served w s t :=
  (trace_inv h).served ht

/-- a processed declaration request retains the declaration -/
theorem decl_retained (h : trace w entries fuel = some s) (m name : Nat) (d : Decl)
    (ht : Task.decl m name ∈ s.done) (hd : findDecl (w.mod m) name = some d) : (m, name) ∈ s.decls :=
  ((trace_inv h).served ht d hd).1

/-- **the emitted entrypoint exports exactly the names of the original**: every exported
declaration (including `default`) is retained, every local export specifier, every named
re-export and every star re-export is retained -/
theorem entry_exports_preserved (h : trace w entries fuel = some s) (m : Nat) (hm : m ∈ entries) :
    (∀ d ∈ (w.mod m).decls, d.exported = true → findDecl (w.mod m) d.name = some d → (m, d.name) ∈ s.decls) ∧
    (∀ p ∈ (w.mod m).exportLocal, (m, p.1) ∈ s.exportLocal) ∧
    (∀ p ∈ (w.mod m).exportFrom, (m, p.1) ∈ s.exportFrom) ∧
    (∀ x ∈ (w.mod m).stars, (m, x) ∈ s.stars) := by
  have T := trace_inv h
  -- the entry request was processed, with `default`: nothing is filtered out
  obtain ⟨_, hdecls, hlocals, hfroms, hstars⟩ := T.served (T.done_of_sched (T.entries m hm))
  refine ⟨fun d hd he hf => ?_, fun p hp => (hlocals p hp rfl).1, fun p hp => (hfroms p hp rfl).1,
    fun x hx => (hstars x hx).1⟩
  exact (T.served (T.done_of_sched (hdecls d hd (by simp [exportedFor, he]))) d hf).1

/-- **nothing else appears**: a retained declaration is a declaration of its module that the public
API calls for — exported by a requested module, or referred to by the public signature of a
retained declaration, through imports and re-exports -/
theorem retained_is_justified (h : trace w entries fuel = some s) (m name : Nat) (hr : (m, name) ∈ s.decls) :
    Just w entries (.decl m name) ∧ (findDecl (w.mod m) name).isSome = true :=
  have T := trace_inv h
  have ⟨hd, hf⟩ := T.declsDone (m, name) hr
  ⟨T.just _ (.inl hd), hf⟩

/-- **and everything the public API calls for is there**: every justified task has been processed -/
theorem justified_is_processed (h : trace w entries fuel = some s) (t : Task) (hj : Just w entries t) :
    t ∈ s.done :=
  -- the processed tasks hold the entry requests and are closed under `asks`
  have T := trace_inv h
  just_least (fun m hm => T.done_of_sched (T.entries m hm))
    (fun t ht _ hu => T.done_of_sched ((T.adds t ht).work hu)) hj

/-- **exactly the public API**: a declaration is retained iff the public API calls for it -/
theorem retained_iff (h : trace w entries fuel = some s) (m name : Nat) :
    (m, name) ∈ s.decls ↔ (Just w entries (.decl m name) ∧ (findDecl (w.mod m) name).isSome = true) := by
  constructor
  · exact retained_is_justified w entries fuel s h m name
  · rintro ⟨hj, hf⟩
    obtain ⟨d, hd⟩ := Option.isSome_iff_exists.mp hf
    exact decl_retained w entries fuel s h m name d (justified_is_processed w entries fuel s h _ hj) hd

/-! non-vacuity: entry module 0 exports class A (refers to private B and to import C from module 1);
module 1 exports C and D; D is not part of the public API -/
def demo : World :=
  [ { decls := [{ name := 1, exported := true, isDefault := false, refs := [2, 3] },
                { name := 2, exported := false, isDefault := false, refs := [] },
                { name := 9, exported := false, isDefault := false, refs := [] }],
      imports := [(3, 1, 3)], exportFrom := [], stars := [], exportLocal := [] },
    { decls := [{ name := 3, exported := true, isDefault := false, refs := [] },
                { name := 4, exported := true, isDefault := false, refs := [] }],
      imports := [], exportFrom := [], stars := [], exportLocal := [] } ]

example : (trace demo [0] 100).map (fun s => (s.decls, s.imports)) = some ([(0, 1), (0, 2), (1, 3)], [(0, 3)]) := by
  decide +kernel

/-! The tracer above treats "was this already requested" as a set of processed tasks.  The code keeps,
per module, a tree of export names with the members wanted of each (`NamedSubset`, `Exports`,
`ImportedExports`; `DG/Subset.lean`), merges every new request into it and traces only the difference.
The theorems below are about that merge. -/
section Requests
open DG.Subset

/-- merging a request tree into another: the result covers both, and what the new one covers was
covered before or is in the difference -/
theorem tree_merge_complete (a b : Sub) (p : List String) :
    ((a.covers p = true ∨ b.covers p = true) → (Sub.extend a b).1.covers p = true) ∧
    (b.covers p = true → a.covers p = true ∨ (Sub.extend a b).2.covers p = true) :=
  ⟨Sub.extend_keeps a b p, Sub.extend_diff a b p⟩

/-- … and the result claims nothing that was neither covered before nor is in the difference -/
theorem tree_merge_sound (a b : Sub) (p : List String) (h : (Sub.extend a b).1.covers p = true) :
    a.covers p = true ∨ (Sub.extend a b).2.covers p = true :=
  Sub.extend_sound a b p h

/-- the same for a module's record (`*`, `*` with `default`, or a tree) -/
theorem record_merge_complete (a b : Imp) (p : List String) :
    ((a.covers p = true ∨ b.covers p = true) → (Imp.add a b).1.covers p = true) ∧
    (b.covers p = true → a.covers p = true ∨ ∃ d, (Imp.add a b).2 = some d ∧ d.covers p = true) :=
  ⟨Imp.add_keeps a b p, Imp.add_diff a b p⟩

theorem record_merge_sound (a b : Imp) (p : List String) (h : (Imp.add a b).1.covers p = true) :
    a.covers p = true ∨ ∃ d, (Imp.add a b).2 = some d ∧ d.covers p = true :=
  Imp.add_sound a b p h

/-- **no request is ever lost**: for any sequence of requests made of one module, every export
path some request covers is covered by one of the differences that were handed on for tracing -/
theorem every_request_is_traced (ts : List Imp) (t : Imp) (p : List String)
    (hm : t ∈ ts) (hc : t.covers p = true) :
    ∃ d ∈ (handledRun none ts).2, d.covers p = true :=
  (handledRun_complete ts none t p hm hc).elim (fun h => nomatch h) id

/-- finding F32 (repaired in /repo): the merge as it was took a partially requested `default` for
the whole of it when `*` came in.  After `Default.A`, then `*`, the record claimed `Default.B`
although neither the earlier request nor the difference covers it — a later request for it was
answered "already handled" and never traced -/
theorem old_merge_overclaims :
    let a := Imp.subset (Sub.fromParts ["default", "A"])
    (Imp.addOld a .star).1.covers ["default", "B"] = true ∧
    a.covers ["default", "B"] = false ∧
    (∀ d, (Imp.addOld a .star).2 = some d → d.covers ["default", "B"] = false) ∧
    (Imp.addOld (Imp.addOld a .star).1 (.subset (Sub.fromParts ["default", "B"]))).2 = none := by
  decide +kernel

/-- with the repaired merge the same history hands the rest of `default` on -/
example :
    (Imp.add (Imp.subset (Sub.fromParts ["default", "A"])) .star).2.map (·.covers ["default", "B"]) = some true := by
  decide +kernel

end Requests

end DG.C11
