import Proofs.BuildInv
import Proofs.BuildClosure
/-!
# C01 — a built graph is exactly the dependency closure of its roots

Model: `DG/Build.lean`, the builder as a state machine (tied to /repo by exact
correspondence of slots, redirects and the loader-call sequence on generated worlds).

Proved here, for every world, option set and state: what `visit_module_dependencies` records
(`visitDeps_records_source`) and which targets it requests (exactly the kept sides of the recorded dependencies, in
order, by a load or a registration as a dynamic branch: `visits_visitDeps` in `Proofs/BuildVisits.lean`); how loader
redirects are recorded (`checkSpecifier_*`); one entry per specifier (`upsert_keys_nodup`); the media-type / attribute /
root / dynamic-branch dispatch (`classify_*`), stated outright.

"Nothing reachable is absent" is proved for every world, option set, root list and finished
build (`reachable_present`, through the invariants of `Proofs/BuildClosure.lean`): everything
reachable from the roots and configured imports by followed dependency edges and recorded
redirect hops has an entry (module or error, never pending) or is a redirect source.  The
converse ("nothing unreachable is present") is false of the code (finding F14: the dependencies
of a module whose entry is overwritten by an error stay) and is decided per run by the
implementation-side closure oracle.
-/
namespace DG.C01
open DG DG.Build Tables

/-- what `visit_module_dependencies` leaves in a dependency: the side the graph kind does not
keep is cleared, unless the dependency is a skipped dynamic one (left untouched) -/
def prune (o : Opts) (d : BDep) : BDep :=
  if d.dyn && o.skipDynamicDeps then d
  else
    { d with
      code := if o.kind.includeCode || d.type == .none then d.code else .none,
      type := if o.kind.includeTypes then d.type else .none }

/-- **recorded dependencies match the source**: the dependency list stored in the module is the
analysed list, entry by entry and in order, with only the unkept side cleared — whatever the
state of the build and whatever the loads it triggers do. -/
theorem visitDeps_records_source (w : World) (o : Opts) (deps : List BDep) (st : St) :
    (visitDeps w o deps st).1 = deps.map (prune o) := by
  fun_induction visitDeps w o deps st
  next => rfl
  next d rest st hskip r ih => rw [List.map_cons, prune, if_pos hskip, ← ih]
  next d rest st hskip c t r ih =>
    rw [List.map_cons, prune, if_neg hskip, ← ih]
    exact congrArg (· :: r.1) ((visitDepType_fst ..).trans (by rw [visitDepCode_fst]))

/-- text, static-versus-dynamic flag, attribute and asset-ness are never altered -/
theorem prune_keeps_identity (o : Opts) (d : BDep) :
    (prune o d).text = d.text ∧ (prune o d).dyn = d.dyn ∧ (prune o d).attr = d.attr ∧
    (prune o d).isAsset = d.isAsset := by
  unfold prune
  split <;> simp

/-- with all dependency kinds nothing is cleared -/
theorem prune_all (o : Opts) (d : BDep) (hk : o.kind = .All) : prune o d = d := by
  unfold prune
  split
  · rfl
  · rw [hk]; rfl

/-- a code-only graph keeps no type resolution; the code side is always kept -/
theorem prune_codeOnly (o : Opts) (d : BDep) (hk : o.kind = .CodeOnly)
    (hs : (d.dyn && o.skipDynamicDeps) = false) :
    (prune o d).type = .none ∧ (prune o d).code = d.code := by
  rw [prune, hs, hk]; exact ⟨rfl, rfl⟩

/-- a types-only graph keeps the code side only where no separate type resolution exists -/
theorem prune_typesOnly (o : Opts) (d : BDep) (hk : o.kind = .TypesOnly)
    (hs : (d.dyn && o.skipDynamicDeps) = false) :
    (prune o d).type = d.type ∧ (prune o d).code = (if d.type == .none then d.code else .none) := by
  rw [prune, hs, hk]; exact ⟨rfl, rfl⟩

theorem checkSpecifier_same (st : St) (s : Spec) : checkSpecifier st s s = st := by
  rw [checkSpecifier, if_pos (beq_self_eq_true s)]

/-- **every loader redirect is recorded**: once a request is answered under another specifier, the requested one is a
redirect source -/
theorem checkSpecifier_records (st : St) (req tgt : Spec) (h : req ≠ tgt) :
    ∃ t, (checkSpecifier st req tgt).redirects.lookup req = some t := by
  rw [lookup_redirects_checkSpecifier, if_pos ⟨rfl, h⟩]
  cases st.redirects.lookup req with
  | none => exact ⟨tgt, rfl⟩
  | some t => exact ⟨t, rfl⟩

/-- the first answer recorded for a specifier wins (`entry().or_insert`) -/
theorem checkSpecifier_first_wins (st : St) (req tgt t0 : Spec)
    (h : st.redirects.lookup req = some t0) :
    (checkSpecifier st req tgt).redirects.lookup req = some t0 := by
  rw [lookup_redirects_checkSpecifier, h]; rfl

/-- a redirected request does not leave its pending slot behind -/
theorem checkSpecifier_drops_pending (st : St) (req tgt : Spec) (h : req ≠ tgt) (a : Bool) :
    (checkSpecifier st req tgt).slot req ≠ some (.pending a) := by
  rw [slot_checkSpecifier, if_pos ⟨rfl, h⟩]
  exact fun e => (unpend_eq_some.mp e).2 a rfl

def keys {α} (l : List (Spec × α)) : List Spec := l.map (·.1)

/-- inserting into the slot map never duplicates a key: **each specifier has a single entry** -/
theorem upsert_keys_nodup {α} (l : List (Spec × α)) (k : Spec) (v : α) (h : (keys l).Nodup) :
    (keys (upsert l k v)).Nodup := by
  rw [keys, keys_upsert]
  exact nodup_insEnd h k

theorem setSlot_keys_nodup (st : St) (s : Spec) (sl : BSlot) (h : (keys st.slots).Nodup) :
    (keys (st.setSlot s sl).slots).Nodup := upsert_keys_nodup _ _ _ h

variable (o : Opts) (c : Content) (range : Option Nat)

/-- a JSON file imported statically without `type: "json"` (and not as a root) is not a module -/
theorem classify_json_needs_attribute (h : c.mt = .Json) :
    classify o c none range none false false = .err .unsupportedMedia range := by
  cases c; cases h; rfl

/-- as a root, in a dynamic branch, or with the attribute, a JSON file is a JSON module -/
theorem classify_json_module (h : c.mt = .Json) (hd : c.decodable = true) (r : Nat) :
    classify o c none range none true false = .json ∧
    classify o c none range none false true = .json ∧
    classify o c (some (.json, r)) range none false false = .json := by
  cases c; cases h; cases hd; exact ⟨rfl, rfl, rfl⟩

/-- `type: "json"` on something that is not JSON is an invalid type assertion -/
theorem classify_json_attribute_on_non_json (h : c.mt = .TypeScript) (r : Nat) :
    classify o c (some (.json, r)) range none false false = .err .invalidTypeAssertion (some r) := by
  cases c; cases h; rfl

/-- an unknown media type is JavaScript exactly when it is a root -/
theorem classify_unknown_root (h : c.mt = .Unknown) (hd : c.decodable = true) (hp : c.parsable = true) :
    classify o c none range none true false = .js .JavaScript ∧
    classify o c none range none false false = .err .unsupportedMedia range := by
  cases c; cases h; cases hd; cases hp; exact ⟨rfl, rfl⟩

/-- a source-phase import is only valid for Wasm without a `type` attribute -/
theorem classify_source_phase (sp : Nat) (h : c.mt ≠ .Wasm) (isRoot inDyn : Bool)
    (hroot : ¬ (isRoot = true ∧ c.mt = .Unknown)) :
    classify o c none range (some sp) isRoot inDyn = .err .sourcePhase (some sp) := by
  have hmt : (isRoot && c.mt == MediaType.Unknown) = false := by simpa using hroot
  simp [classify, hmt, h]

/-- CommonJS media types are only analysed for local files -/
theorem classify_cjs_remote (h : c.mt = .Cjs) (hf : c.schemeFile = false) :
    classify o c none range none false false = .err .unsupportedMedia range := by
  cases c; cases h; cases hf; rfl

/-- config-file attribute types need the unstable flag -/
theorem classify_config_attribute (r : Nat) (isRoot inDyn : Bool) (hc : o.unstableConfig = false) :
    classify o c (some (.config, r)) range none isRoot inDyn = .err .unsupportedAttr (some r) := by
  cases o; cases hc; rfl

/-- a world of two modules: `0` imports `1`, which redirects to `2` -/
def demoWorld : World :=
  { resp := [(0, .module 0), (1, .redirect 2), (2, .module 2)],
    content := [(0, { mt := .TypeScript, schemeFile := true, decodable := true, parsable := true, wasmOk := true,
                      parsed := { deps := [{ text := 0, code := .ok 1 0, type := .none, dyn := false, attr := none,
                                             isAsset := false, sourcePhase := none }],
                                  typesDep := none, sourceMapDep := none } }),
                (2, { mt := .JavaScript, schemeFile := true, decodable := true, parsable := true, wasmOk := true,
                      parsed := { deps := [], typesDep := none, sourceMapDep := none } })],
    wasmExt := [], nodeSpecs := [], maxRedirects := 10, lockRemote := [] }

def demoOpts : Opts :=
  { kind := .All, isDynamic := false, skipDynamicDeps := false, unstableBytes := false,
    unstableText := false, unstableCss := false, unstableConfig := false }

-- non-vacuity: the model builds it
example : ((build demoWorld demoOpts [0] [] 50).map fun st =>
    (keys st.slots, st.redirects, st.log.map (·.spec))) = some ([0, 2], [(1, 2)], [0, 1, 2]) := by
  decide +kernel

/-- what is reachable in the finished graph: roots, targets of configured imports, the followed
targets of module entries (the kept sides of their recorded dependencies, unless dynamic and
skipped, and the types dependency), and the targets of recorded redirects -/
inductive Reach (o : Opts) (out : St) (roots : List Spec) (imports : List (Spec × List Dep)) : Spec → Prop
  | root {r} : r ∈ roots → Reach o out roots imports r
  | configured {d s rng} : d ∈ imports.flatMap (·.2) → d.type = .ok s rng → Reach o out roots imports s
  | dep {f m x} : Reach o out roots imports f → out.slot f = some (.module m) → x ∈ modTargets o m →
      Reach o out roots imports x
  | redirect {a b} : Reach o out roots imports a → (a, b) ∈ out.redirects → Reach o out roots imports b

/-- accounted for = has a finished entry (module or error) or is a redirect source -/
def Present (out : St) (x : Spec) : Prop :=
  (∃ m, out.slot x = some (.module m)) ∨ (∃ e, out.slot x = some (.err e)) ∨ (out.redirects.lookup x).isSome = true

/-- **the followed targets of every module entry, the target of every redirect, every root and
every configured import are accounted for in a finished build, and nothing is pending** -/
theorem closure_complete (w : World) (o : Opts) (roots : List Spec) (imports : List (Spec × List Dep))
    (fuel : Nat) (out : St) (h : build w o roots imports fuel = some out) :
    (∀ r ∈ roots, Acc out r) ∧
    (∀ d ∈ imports.flatMap (·.2), ∀ s rng, d.type = .ok s rng → Acc out s) ∧
    (∀ f m, out.slot f = some (.module m) → ∀ x ∈ modTargets o m, Acc out x) ∧
    (∀ a b, (a, b) ∈ out.redirects → Acc out b) ∧
    (∀ s a, out.slot s ≠ some (.pending a)) := by
  have hpend := build_no_pending w o roots imports fuel out h
  rw [build_eq] at h
  have hv := visits_initLoads w o roots (imports.flatMap (·.2)) { inDyn := o.isDynamic }
  -- what the loop keeps is `StepOk o st0 ·`, `st0` being the state after the initial loads: the closure invariants hold, and
  -- what was accounted for or covered in `st0` (the roots and configured imports, by `hv`) still is
  obtain ⟨hs, hq⟩ := runLoop_induction (P := StepOk o _) w o (fun s hs => hs.trans (hs.closed.iter w))
    fuel _ out (.refl (hv.stepOk (closed_init o _)).closed) h
  -- at the end the dynamic-branch table is empty: what is covered is accounted for
  have hdyn : out.dyn = [] := (quiescent_iff.mp hq).2.1
  have hacc : ∀ x ∈ initTargets roots (imports.flatMap (·.2)), Acc out x := fun x hx =>
    acc_of_cover (hs.cover x (hv.cover_of_mem x hx)) hdyn
  refine ⟨fun r hr => hacc r (List.mem_append_left _ hr), fun d hd s rng hty => ?_,
    fun f m hf x hx => acc_of_cover (hs.closed.dep f _ hf x hx) hdyn,
    fun a b hab => (hs.closed.redir (a, b) hab).resolve_right nofun, hpend⟩
  exact hacc s (List.mem_append_right _ (List.mem_flatMap.mpr ⟨d, hd, by rw [hty]; exact List.mem_singleton_self s⟩))

/-- **nothing reachable is absent** -/
theorem reachable_present (w : World) (o : Opts) (roots : List Spec) (imports : List (Spec × List Dep))
    (fuel : Nat) (out : St) (h : build w o roots imports fuel = some out) (x : Spec)
    (hx : Reach o out roots imports x) : Present out x := by
  obtain ⟨h1, h2, h3, h4, h5⟩ := closure_complete w o roots imports fuel out h
  have hacc : Acc out x := by
    cases hx with
    | root hr => exact h1 _ hr
    | configured hd ht => exact h2 _ hd _ _ ht
    | dep _ hf hm => exact h3 _ _ hf _ hm
    | redirect _ hab => exact h4 _ _ hab
  rcases hacc with hs | hr
  · rcases hsl : out.slot x with _ | m | e | a
    · rw [hsl] at hs; cases hs
    · exact Or.inl ⟨m, hsl⟩
    · exact Or.inr (Or.inl ⟨e, hsl⟩)
    · exact absurd hsl (h5 x a)
  · exact Or.inr (Or.inr hr)

/-- the followed targets are read off the recorded dependencies: a kept code or type side of a
dependency that is not a skipped dynamic one -/
theorem mem_modTargets_js (o : Opts) (mt : MediaType) (deps : List BDep) (td sm : Option Res) (d : BDep) (s : Spec) (rng : Nat)
    (hd : d ∈ deps) (hs : (d.dyn && o.skipDynamicDeps) = false) (hc : d.code = .ok s rng ∨ d.type = .ok s rng) :
    s ∈ modTargets o (.js mt deps td sm) := by
  refine List.mem_append_left _ (List.mem_flatMap.mpr ⟨d, hd, ?_⟩)
  rw [depTargets_eq, if_neg (by rw [hs]; nofun), List.mem_append, mem_resTargets, mem_resTargets]
  exact hc.imp (⟨rng, ·⟩) (⟨rng, ·⟩)

/-- **configured imports are type imports**: a graph that does not include types is built as if
none were configured (repair of F15 — before it such a build loaded their targets and kept them,
while pruning the types of a full graph drops them) -/
theorem code_only_ignores_configured_imports (w : World) (o : Opts) (roots : List Spec)
    (imports : List (Spec × List Dep)) (fuel : Nat) (hk : o.kind.includeTypes = false) :
    buildGraph w o roots imports fuel = build w o roots [] fuel := by
  simp [buildGraph, effImports, hk]

/-- `reachable_present` for `buildGraph`: with types the configured imports count as given, without them there are none -/
theorem reachable_present_graph (w : World) (o : Opts) (roots : List Spec) (imports : List (Spec × List Dep))
    (fuel : Nat) (out : St) (h : buildGraph w o roots imports fuel = some out) (x : Spec)
    (hx : Reach o out roots (effImports o imports) x) : Present out x :=
  reachable_present w o roots (effImports o imports) fuel out h x hx

example : ∃ out, build demoWorld demoOpts [0] [] 50 = some out ∧
    Reach demoOpts out [0] [] 2 ∧ Present out 2 := by
  refine ⟨(build demoWorld demoOpts [0] [] 50).get (by decide +kernel), by simp, ?_, ?_⟩
  · refine Reach.redirect (a := 1) (Reach.dep (f := 0) (m := .js .TypeScript
      [{ text := 0, code := .ok 1 0, type := .none, dyn := false, attr := none, isAsset := false, sourcePhase := none }] none none)
      (Reach.root (by simp)) (by decide +kernel) (by decide +kernel)) (by decide +kernel)
  · exact Or.inl ⟨.js .JavaScript [] none none, by decide +kernel⟩

end DG.C01
