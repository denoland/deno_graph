import DG.TextPos
import Proofs.Deps
/-!
# C08 — analysis finds every dependency once with exact ranges

Models: `DG/TextPos.lean` (position arithmetic every reported range goes through) and
`DG/Deps.lean` (what a module's analysis becomes in the graph: `parse_js_module_from_module_info`
and `fill_module_dependencies`).  The parser itself (swc) and its dependency collector are not
modelled: that the *analysis* lists every import of the source is decided on the implementation by a
generator that knows what it wrote.  From the analysis on, "each dependency once" is a theorem.
-/
namespace DG.C08
open DG.MI DG.TP
open DG.Deps (analyse_forall fill_ind preFill_ind nodup_upd applyImp_fields addJsx_fields retainOne_some pre_new
  pre_addTypeImport pre_addJsx sw_applyImp co_new co_addJsx co_applyImp preFill_typesDep)

theorem offFrom_zero (text : List Char) (col : Nat) : offFrom text 0 col = col := by
  cases text <;> rfl

theorem posFrom_eq (text : List Char) (off l c : Nat) : off ≤ text.length →
    posFrom text off l c = ⟨l, c + off⟩ ∨
    ∃ k m, posFrom text off l c = ⟨l + (k + 1), m⟩ ∧ offFrom text (k + 1) m = off := by
  fun_induction posFrom text off l c <;> intro h
  · exact .inl rfl
  · cases h
  · next ih =>
    right
    rcases ih (Nat.le_of_succ_le_succ h) with hp | ⟨k, m, hp, ho⟩
    · exact ⟨0, _, hp, by rw [offFrom, if_pos rfl, offFrom_zero, Nat.zero_add, Nat.add_comm]⟩
    · exact ⟨k + 1, m, by rw [hp, Nat.add_assoc, Nat.add_comm 1], by rw [offFrom, if_pos rfl, ho, Nat.add_comm]⟩
  · next hn ih =>
    rcases ih (Nat.le_of_succ_le_succ h) with hp | ⟨k, m, hp, ho⟩
    · exact .inl (by rw [hp, Nat.add_assoc, Nat.add_comm 1])
    · exact .inr ⟨k, m, hp, by rw [offFrom, if_neg hn, ho, Nat.add_comm]⟩

/-- scanning invariant: the position found is not before the starting one, and going back from it
(relative to the starting line/column) gives the offset -/
theorem posFrom_spec (text : List Char) : ∀ (off l c : Nat), off ≤ text.length →
    let p := posFrom text off l c
    l ≤ p.line ∧ (p.line = l → c ≤ p.char) ∧
    offFrom text (p.line - l) (if p.line = l then p.char - c else p.char) = off := by
  intro off l c h
  rcases posFrom_eq text off l c h with hp | ⟨k, m, hp, ho⟩
  · simp [hp, offFrom_zero]
  · simpa [hp] using ho

/-- **a position maps back to the offset it came from** (any text: non-ASCII characters, `\r\n`
or `\n` line ends, comments — the scan only distinguishes `\n`) -/
theorem offOf_posOf (text : List Char) (off : Nat) (h : off ≤ text.length) :
    offOf text (posOf text off) = off := by
  rw [offOf, posOf]
  rcases posFrom_eq text off 0 0 h with hp | ⟨k, m, hp, ho⟩
  · rw [hp, offFrom_zero, Nat.zero_add]
  · rw [hp, Nat.zero_add, ho]

theorem posLe_iff {a b : Pos} : posLe a b = true ↔ a.line < b.line ∨ a.line = b.line ∧ a.char ≤ b.char := by
  simp only [posLe, Bool.or_eq_true, decide_eq_true_eq, Bool.and_eq_true, beq_iff_eq]

theorem posLe_refl (p : Pos) : posLe p p = true := posLe_iff.2 (.inr ⟨rfl, Nat.le_refl _⟩)

theorem posLe_trans (a b c : Pos) (h1 : posLe a b = true) (h2 : posLe b c = true) : posLe a c = true := by
  rw [posLe_iff] at *
  rcases h1 with h1 | ⟨e1, h1⟩ <;> rcases h2 with h2 | ⟨e2, h2⟩
  · exact .inl (Nat.lt_trans h1 h2)
  · exact .inl (e2 ▸ h1)
  · exact .inl (e1 ▸ h2)
  · exact .inr ⟨e1.trans e2, Nat.le_trans h1 h2⟩

/-- positions are monotone in the offset -/
theorem posFrom_mono (text : List Char) : ∀ (o1 o2 l c : Nat), o1 ≤ o2 → o2 ≤ text.length →
    posLe (posFrom text o1 l c) (posFrom text o2 l c) = true := by
  intro o1 o2 l c
  fun_induction posFrom text o1 l c generalizing o2 <;> intro h1 h2
  · rcases posFrom_eq _ o2 _ _ h2 with hp | ⟨k, m, hp, -⟩ <;> rw [hp, posLe_iff]
    · exact .inr ⟨rfl, Nat.le_add_right ..⟩
    · exact .inl (Nat.lt_add_of_pos_right (Nat.succ_pos k))
  · cases Nat.le_trans h1 h2
  all_goals
    cases o2 with
    | zero => cases h1
    | succ o2 =>
      rename_i ih
      simp only [posFrom, *, if_true, if_false]
      exact ih o2 (Nat.le_of_succ_le_succ h1) (Nat.le_of_succ_le_succ h2)

/-- by monotonicity the range `[a, b]` includes the position of every offset in between -/
theorem includes_of_between (text : List Char) (a x b : Nat) (h1 : a ≤ x) (h2 : x ≤ b) (h3 : b ≤ text.length) :
    includes { s := posOf text a, e := posOf text b } (posOf text x) = true := by
  simp only [includes, Bool.and_eq_true]
  exact ⟨posFrom_mono text a x 0 0 h1 (Nat.le_trans h2 h3), posFrom_mono text x b 0 0 h2 h3⟩

theorem slice_posOf {text u v w : List Char} {s t : Nat} (e : text = u ++ v ++ w) (hs : s = u.length)
    (ht : t = u.length + v.length) : slice text { s := posOf text s, e := posOf text t } = v := by
  subst e hs ht
  have h : u.length + v.length ≤ (u ++ v ++ w).length := by
    rw [List.length_append, List.length_append]; exact Nat.le_add_right ..
  rw [slice, offOf_posOf _ _ (Nat.le_trans (Nat.le_add_right ..) h), offOf_posOf _ _ h, Nat.add_sub_cancel_left,
    List.append_assoc, List.drop_left, List.take_left]

/-- **the range computed for a match inside a comment covers precisely the quoted specifier**:
the comment starts at `pre.length`, its text (after `//` or `/*`) is `a ++ q :: spec ++ q :: b`, the
match is `spec`; whatever precedes (non-ASCII text, other comments, any line ends) -/
theorem commentSpan_covers_quoted (pre a spec b post : List Char) (o1 o2 q : Char) :
    let text := pre ++ o1 :: o2 :: (a ++ q :: spec ++ q :: b) ++ post
    slice text (commentSpan text pre.length (a.length + 1) (a.length + 1 + spec.length) false)
      = q :: spec ++ [q] :=
  slice_posOf (u := pre ++ o1 :: o2 :: a) (w := b ++ post) (by simp) (by simp +arith) (by simp +arith)

/-- for a pragma written without quotes (`@jsxImportSource x`, `sourceMappingURL=x`, `@deno-types=x`) the
range covers precisely the specifier -/
theorem commentSpan_covers_unquoted (pre a spec b post : List Char) (o1 o2 : Char) :
    let text := pre ++ o1 :: o2 :: (a ++ spec ++ b) ++ post
    slice text (commentSpan text pre.length a.length (a.length + spec.length) true) = spec :=
  slice_posOf (u := pre ++ o1 :: o2 :: a) (w := b ++ post) (by simp) (by simp +arith) (by simp +arith)

/-- **position lookup**: what `Dependency::includes` returns holds the position and is one of the
dependency's ranges -/
theorem depIncludes_sound (imports : List Range) (t : Option Range) (p : Pos) (r : Range)
    (h : depIncludes imports t p = some r) : includes r p = true ∧ (r ∈ imports ∨ t = some r) := by
  revert h
  fun_cases depIncludes imports t p <;> intro h <;> cases h
  · next hf => exact ⟨by simpa using List.find?_some hf, .inl (List.mem_of_find?_eq_some hf)⟩
  · next hi => exact ⟨hi, .inr rfl⟩

/-- `Dependency::includes` answers whenever some range of the dependency holds the position -/
theorem depIncludes_complete (imports : List Range) (t : Option Range) (p : Pos)
    (h : (∃ r ∈ imports, includes r p = true) ∨ (∃ r, t = some r ∧ includes r p = true)) :
    (depIncludes imports t p).isSome = true := by
  unfold depIncludes
  split
  · rfl
  · next hf =>
    rcases h with ⟨r, hr, hi⟩ | ⟨r, rfl, hi⟩
    · exact absurd hi (by simpa using List.find?_eq_none.mp hf r hr)
    · simp [hi]

/-! non-vacuity: a two-line text with a non-ASCII character before the comment -/
example :
    slice "é\r\n// @ts-types=\"./x.d.ts\"\nimport".toList
      (commentSpan "é\r\n// @ts-types=\"./x.d.ts\"\nimport".toList 3 12 20 false) = "\"./x.d.ts\"".toList := by
  -- as a list literal the text evaluates fast, through `String.toList` it does not
  repeat rw [String.toList_ofList]
  decide +kernel

/-- **each dependency once**: whatever the analysis lists — imports, exports, dynamic imports,
triple-slash references, JSDoc imports, the JSX import source, in any number and order — the
module records exactly one entry per specifier text -/
theorem one_entry_per_specifier (e : DG.Deps.Env) (mi : ModuleInfo) :
    ((DG.Deps.analyse e mi).deps.map (·.text)).Nodup := by
  refine fill_ind e (fun l => (l.map (·.text)).Nodup) (fun _ ts i _ => nodup_upd fun d => (applyImp_fields e ts i d).text)
    (fun l h => ?_) _ _ (preFill_ind e mi (fun l => (l.map (·.text)).Nodup) List.nodup_nil
      (fun _ _ t k _ => nodup_upd (f := DG.Deps.addTypeImport e t k) fun _ => rfl)
      (fun _ t => nodup_upd fun d => (addJsx_fields e mi t d).text))
  exact nodup_keys_filterMap (fun hb => by rw [(retainOne_some hb).1]) h

/-- **static wins** (C01): an entry is flagged dynamic only if every import of the module as code
behind it is dynamic — one static import, `@jsxImportSource` included, makes it static -/
theorem static_wins (e : DG.Deps.Env) (mi : ModuleInfo) (d : DG.Deps.Dep) (hd : d ∈ (DG.Deps.analyse e mi).deps)
    (hdyn : d.dyn = true) : ∀ i ∈ d.imports, i.kind.isCode = true → i.dyn = true :=
  (analyse_forall e mi (pre_new e) (fun _ => pre_addTypeImport e) (pre_addJsx e mi) (fun _ h => h.sw)
    (fun ts i _ => sw_applyImp e ts i)
    (fun _ _ s hs => ⟨fun hy i hi => s.allDyn hy i (hs i hi), fun hn hnd i hi => s.noCode hn hnd i (hs i hi), s.decl⟩)
    d hd).allDyn hdyn

/-- **a code-only analysis has no type side**: no type resolution, no `@deno-types`, no type-only
import behind any entry, and no types dependency of the module -/
theorem code_only_has_no_types (e : DG.Deps.Env) (he : e.includeTypes = false) (mi : ModuleInfo) :
    (∀ d ∈ (DG.Deps.analyse e mi).deps, d.type = .none ∧ d.denoTypes = none ∧ ∀ i ∈ d.imports, i.kind.isCode = true) ∧
    (DG.Deps.analyse e mi).typesDep = none :=
  ⟨fun d hd =>
    have h := analyse_forall e mi co_new (fun ht => absurd ht (by simp [he])) (co_addJsx e he mi) (fun _ => id)
      (fun ts i hk => co_applyImp e he ts i (Or.resolve_right hk (by simp [he])))
      (fun _ _ s hs => ⟨s.type, s.denoTypes, fun i hi => s.allCode i (hs i hi)⟩) d hd
    ⟨h.type, h.denoTypes, h.allCode⟩, preFill_typesDep e he mi⟩

/-- non-vacuity: `import "./a.ts"; await import("./a.ts"); import type {T} from "./b.ts"` -/
def demoInfo : ModuleInfo :=
  { script := false,
    deps := [.static { kind := .import, typesSpecifier := none, specifier := "./a.ts",
                       specifierRange := ⟨⟨0, 7⟩, ⟨0, 15⟩⟩, sideEffect := true, attrs := .none },
             .dynamic { kind := .import, typesSpecifier := none, argument := .str "./a.ts",
                        argumentRange := ⟨⟨1, 13⟩, ⟨1, 21⟩⟩, attrs := .none },
             .static { kind := .importType, typesSpecifier := none, specifier := "./b.ts",
                       specifierRange := ⟨⟨2, 21⟩, ⟨2, 29⟩⟩, sideEffect := false, attrs := .none }],
    tsRefs := [], selfTypes := none, jsxSrc := none, jsxSrcTypes := none, jsdoc := [], sourceMap := none }

def demoEnv : DG.Deps.Env :=
  { includeTypes := true, isDeclaration := false, isTyped := true, isJsx := false, header := none,
    resC := fun t => if t = "./a.ts" then .ok 1 else if t = "./b.ts" then .ok 2 else .err,
    resT := fun t => if t = "./a.ts" then .ok 1 else if t = "./b.ts" then .ok 2 else .err }

example : (DG.Deps.analyse demoEnv demoInfo).deps.map (fun d => (d.text, d.dyn, d.imports.length)) =
    [("./a.ts", false, 2), ("./b.ts", false, 1)] := by decide +kernel

end DG.C08
