import Proofs.Exports
/-!
# C16 — the resolved export set follows the ES rules and is computed in finite time

Model: `DG/Exports.lean` (`exports_and_re_exports_inner`).  The traversal takes fuel and answers with
nothing once it is used up; `exportsOf` gives it `#modules + 1`, which is enough for a complete answer in
a well-formed world, cyclic re-exports included (`go_good` in `Proofs/Exports.lean`).
-/
namespace DG.C16
open DG.Sym

variable (w : World)

/-- **every resolved export name is exported according to the statement** -/
theorem exports_sound (m n : Nat) (h : n ∈ names (exportsOf w m)) : Exported w m n := by
  obtain ⟨q, hq, rfl⟩ := List.mem_map.mp h
  exact ⟨q.2, go_sound hq⟩

/-- **nothing is missing**: every name the statement assigns to the module is among the resolved
exports — own names (including `default`), and the non-default names of everything reachable
through star re-exports, however the re-exports are chained or cycle -/
theorem exports_complete (hwf : WF w) (m n : Nat) (hm : m < w.length) (h : Exported w m n) :
    n ∈ names (exportsOf w m) := by
  obtain ⟨p, hreach, hown, hcond⟩ := h
  have g := go_good hwf (w.length + 1) [] m (Nat.lt_succ_of_le (unvisited_le w [])) hm
  exact g.named p (g.reach hreach g.self) List.not_mem_nil n hown hcond

/-- **the resolved export set is exactly the statement's** -/
theorem exports_exact (hwf : WF w) (m n : Nat) (hm : m < w.length) :
    n ∈ names (exportsOf w m) ↔ Exported w m n :=
  ⟨exports_sound w m n, exports_complete w hwf m n hm⟩

/-- **own names take precedence**: the module's own exports come first, in declaration order, each
resolved to the module itself; star re-exports only ever append names that are not there yet -/
theorem own_first (m : Nat) :
    ∃ rest, exportsOf w m = ((w.mod m).own.map fun n => (n, m)) ++ rest := by
  unfold exportsOf
  simp only [go, List.contains_nil, Bool.false_eq_true, if_false]
  refine List.foldlRecOn (motive := fun st : List Nat × Resolved =>
    ∃ rest, st.2 = ((w.mod m).own.map fun n => (n, m)) ++ rest) _ _ ⟨[], by simp⟩ ?_
  rintro st ⟨rest, hr⟩ (_ | t) -
  · exact ⟨rest, hr⟩
  · obtain ⟨r2, h2, -⟩ := addInner_eq_append st.2 (go w w.length st.1 t).2
    exact ⟨rest ++ r2, by rw [step, h2, hr, List.append_assoc]⟩

/-- no name is resolved twice (given the module's own names are distinct, as map keys are) -/
theorem names_nodup_step (acc inner : Resolved) (h : (names acc).Nodup) : (names (addInner acc inner)).Nodup := by
  rw [names_addInner]
  exact nodup_foldl_insEnd h

/-! non-vacuity: a ↔ b cycle, both with a default export; c reached through both -/
def demo : World :=
  [ { own := [0, 1], stars := [some 1, none] },        -- a: default, x ; export * from b ; export * from "missing"
    { own := [0, 2], stars := [some 0, some 2] },      -- b: default, y ; export * from a ; export * from c
    { own := [3, 1], stars := [some 0] } ]             -- c: z, x ; export * from a

example : exportsOf demo 0 = [(0, 0), (1, 0), (2, 1), (3, 2)] := by decide +kernel
example : exportsOf demo 1 = [(0, 1), (2, 1), (1, 0), (3, 2)] := by decide +kernel

end DG.C16
