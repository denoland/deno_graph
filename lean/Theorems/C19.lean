import DG.Reload
import Proofs.BuildInv
/-!
# C19 — incremental builds and reloads converge to the from-scratch graph

Model: `DG/Reload.lean` — a fresh builder per call over the persisted slots / redirects / roots /
configured imports.  Proved for every world and history:
* building again with roots and imports the graph already has issues no loader call and changes
  nothing (`build_idem`);
* every incremental build and every reload that finishes leaves no pending entry, provided the
  graph it started from had none (`buildMore_no_pending`, `reload_no_pending`);
* `reload` takes each specifier through the recorded redirects before removing and re-requesting
  it (`reload_resolves_first`) — which is why a changed redirect is never noticed (finding F20).
Convergence to the from-scratch graph is decided on every run by exact model correspondence after
every step plus the implementation-side comparison with from-scratch builds.
-/
namespace DG.C19
open DG DG.Build DG.Reload

variable (w : World) (o : Opts)

/-- **building again with roots it already has changes nothing** — no request is queued, no
loader call is made, slots and redirects are returned as they were -/
theorem build_idem (g : GSt) (roots : List Spec) (imports : List (Spec × List Dep)) (fuel : Nat)
    (hr : ∀ r ∈ roots, r ∈ g.roots) (hi : ∀ p ∈ imports, p.1 ∈ g.importReferrers) :
    buildMore w o g roots imports (fuel + 1) =
      some ({ g with slots := g.slots, redirects := g.redirects }, freshBuilder o g) := by
  have h1 : roots.filter (fun r => !g.roots.contains r) = [] :=
    List.filter_eq_nil_iff.mpr fun r hrm => by simp [hr r hrm]
  have h2 : (effImports o imports).filter (fun p => !g.importReferrers.contains p.1) = [] :=
    List.filter_eq_nil_iff.mpr fun p hp => by
      have hp' : p ∈ imports := by
        rw [effImports] at hp
        split at hp
        · exact hp
        · cases hp
      simp [hi p hp']
  unfold buildMore
  simp only [h1, h2, List.foldl_nil, List.flatMap_nil, List.map_nil, List.append_nil]
  have hq : quiescent (freshBuilder o g) = true := quiescent_iff.mpr ⟨rfl, rfl, rfl⟩
  simp only [runLoop, hq, if_true]
  rfl

/-- **an incremental build leaves no entry unfinished** -/
theorem buildMore_no_pending (g : GSt) (roots : List Spec) (imports : List (Spec × List Dep))
    (fuel : Nat) (g' : GSt) (out : St)
    (hg : ∀ s a, g.slots.lookup s ≠ some (.pending a))
    (h : buildMore w o g roots imports fuel = some (g', out)) :
    ∀ s a, g'.slots.lookup s ≠ some (.pending a) := by
  unfold buildMore at h
  simp only at h
  split at h
  · rename_i outst hrun
    simp only [Option.some.injEq, Prod.mk.injEq] at h
    obtain ⟨rfl, rfl⟩ := h
    -- the loads `buildMore` starts with are `initLoads` of the new roots and imports, from the fresh builder (by computation)
    have hv := (visits_initLoads w o (roots.filter fun r => !g.roots.contains r)
      (((effImports o imports).filter fun p => !g.importReferrers.contains p.1).flatMap (·.2)) (freshBuilder o g))
    -- a graph without pending entries gives a builder state in which the queue invariant holds
    exact runLoop_no_pending w o fuel _ outst (hv.pendInv (NoPendingSlot.pendInv hg)) hrun
  · cases h

/-- **a reload leaves no entry unfinished** -/
theorem reload_no_pending (g : GSt) (specs : List Spec) (fuel : Nat) (g' : GSt) (out : St)
    (hg : ∀ s a, g.slots.lookup s ≠ some (.pending a))
    (h : reload w o g specs fuel = some (g', out)) :
    ∀ s a, g'.slots.lookup s ≠ some (.pending a) := by
  unfold reload at h
  simp only at h
  split at h
  · rename_i outst hrun
    simp only [Option.some.injEq, Prod.mk.injEq] at h
    obtain ⟨rfl, rfl⟩ := h
    -- each specifier is erased and loaded again: both keep the invariant
    exact runLoop_no_pending w o fuel _ outst
      (List.foldlRecOn _ _ (NoPendingSlot.pendInv (st := freshBuilder o g) hg) fun st h s _ => (h.erase s).load w o 0 _) hrun
  · cases h

/-- reload takes the requested specifier through the recorded redirects first: the specifier
actually removed and re-requested is `g.resolve s` (finding F20 when the redirect itself changed) -/
theorem reload_resolves_first (g : GSt) (s : Spec) (fuel : Nat) :
    reload w o g [s] fuel =
      (match runLoop w o fuel (load w o 0
          { spec := g.resolve s, range := none, spRef := none, isAsset := false, inDyn := o.isDynamic,
            isRoot := true, attr := none }
          { freshBuilder o g with slots := erase g.slots (g.resolve s) }) with
       | some out => some ({ g with slots := out.slots, redirects := out.redirects }, out)
       | none => none) := by
  unfold reload freshBuilder
  simp only [List.map_cons, List.map_nil, List.foldl_cons, List.foldl_nil]
  rfl

end DG.C19
